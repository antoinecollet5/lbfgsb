/-
  The limited-memory quadratic model both kernels work with: `B = θ I − W M Wᵀ` as a matrix, the model `m(z)`, the size `k` read off `W`, and what
  the theorems assume of the product with the middle matrix. Definitions only.
-/
import LbfgsbVerif.Proofs.VecBridge

namespace Lbfgsb
open Matrix
variable {K : Type} [Field K] [LinearOrder K] [IsStrictOrderedRing K]

def bmat {n k : Nat} (θ : K) (Wm : Matrix (Fin n) (Fin k) K) (Mm : Matrix (Fin k) (Fin k) K) :
    Matrix (Fin n) (Fin n) K := θ • (1 : Matrix (Fin n) (Fin n) K) - Wm * Mm * Wmᵀ

def qmodel {n : Nat} (G : Fin n → K) (B : Matrix (Fin n) (Fin n) K) (z : Fin n → K) : K :=
  G ⬝ᵥ z + (1 / 2) * (z ⬝ᵥ (B *ᵥ z))

/-- `k = 2m` as `cauchy` reads it off `W` -/
def kOf (i : CauchyIn K) : Nat := match i.W with | r :: _ => r.length | [] => 0

/-- what is assumed of the inputs: sizes, and the product with the middle matrix is the exact
product with a symmetric matrix `Mm` -/
structure QCtx (i : CauchyIn K) (n k : Nat) (Mm : Matrix (Fin k) (Fin k) K) : Prop where
  hx : i.x.length = n
  hg : i.g.length = n
  hW : i.W.length = n
  hrow : ∀ r, r < n → (i.W.getD r []).length = k
  hsym : Mmᵀ = Mm
  hmv : ∀ v : List K, v.length = k → (i.mv v).length = k ∧ vec k (i.mv v) = Mm *ᵥ vec k v

end Lbfgsb
