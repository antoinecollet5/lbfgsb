/-
  C06 / C07 — "restarted from a returned result (or from the latest callback state) the run continues
  as the uninterrupted run does": the simulation theorem (ordered field, exact arithmetic).

  `sA` is a state of the main loop of a run (what the result of the run stopped there, or the callback
  state handed out there, is a snapshot of: `ck`). Restarting from `ck` — `initEval` + `prepare`
  with `checkpoint := ck`, `x0 := ck.x` — yields the loop state `sB`, which IS `sA` up to the ghost
  logs (calls, callback states, kernel requests) and the wrapper's cache (`restart_state`;
  Proofs/Restart.lean: the history rebuilt from the pairs is the history); from there the two loops
  compute the same, up to the same ghost data (`restart_continues`; Proofs/RestartSim.lean: after the
  first evaluation of the line search the wrappers are indistinguishable).
  Hypotheses, each the exact-arithmetic face of a recorded finding or a modelling choice: the point
  of `sA` ends its stored history and its last pair was accepted (else K4); no gradient scaler
  (else K1); no update function, no target, constant `gtol`; callbacks that let the run go on; the
  first line search of the continuation evaluates the objective at a point other than the current
  one (`FirstEval`: positive first step along a direction that moves some variable — otherwise the
  restarted wrapper would evaluate once more than the original, which holds the value in its cache).
  In floating point the rebuilt history differs in the last bits (K2): there the statement is
  decided by the split-run differential.
-/
import LbfgsbVerif.Proofs.RestartSim
import LbfgsbVerif.Proofs.Restart
import LbfgsbVerif.Proofs.C11

namespace Lbfgsb.C06
variable {K ε δ : Type} [Field K]
attribute [local instance] fieldFloatLike

/-- `ck` is the snapshot of the loop state `s` that a result / callback state carries -/
structure SnapshotOf (ck : Result K) (s : St K) : Prop where
  x : ck.x = s.x
  f : ck.f = s.f
  jac : ck.jac = s.g
  nfev : ck.nfev = s.sf.nfev
  njev : ck.njev = s.sf.ngev
  nit : ck.nit = s.nit
  sk : ck.sk = diffs s.X
  yk : ck.yk = diffs s.G

theorem snapshot_result (s : St K) : SnapshotOf s.result s :=
  ⟨rfl, rfl, rfl, rfl, rfl, rfl, rfl, rfl⟩

variable [LinearOrder K] [IsStrictOrderedRing K]

/-- a loop state a restart from its result reproduces (`restart_state`). `hX … mats`: the history ends with the
current point, whose pair was accepted (else K4), and the snapshot is current — what `restartMemory` rebuilds;
`sf_*`: what `SF.new` gives the restarted wrapper; `task … warnflag`: the values `Init.state` sets, which
`St.er2` keeps; `ftarget`, `gtol`: no target, `a` is the value of the constant `gtol`; `inbox`: the restart
clips `x0 := s.x` -/
structure Restartable (c : Cfg K) (s : St K) (X' G' : List (Vec K)) (a : K) : Prop where
  hX : s.X = X' ++ [s.x]
  hG : s.G = G' ++ [s.g]
  lenX : AllLen s.x.length (X' ++ [s.x])
  lenG : AllLen s.g.length (G' ++ [s.g])
  hlen : X'.length = G'.length
  hb : X'.length ≤ c.maxcor
  curv : X' ≠ [] → curvOk s.x s.g (lastD X') (lastD G') c.epsSY = true
  mats : s.mats = if s.X.length > 1 then some (s.X, s.G) else none
  sf_mode : s.sf.mode = c.mode
  sf_lb : s.sf.lb = c.lb
  sf_ub : s.sf.ub = c.ub
  sf_scale : s.sf.scale = 1
  sf_x : s.sf.x = s.x
  task : s.task = .start
  success : s.success = false
  warnflag : s.warnflag = 2
  ftarget : s.ftarget = none
  gtol : s.gtol = a
  inbox : clip s.x c.lb c.ub = s.x

/-- **C06 (restart state)** `initEval` + `prepare` of the restart from a snapshot of `s` yield `s` itself with a
fresh wrapper (`SFR`) and empty ghost lists -/
theorem restart_state (u : User K ε) (c : Cfg K) (s : St K) (X' G' : List (Vec K)) (a : K) (ck : Result K)
    (hs : Restartable c s X' G' a) (hck : SnapshotOf ck s)
    (hS : c.hasScaler = false) (hU : c.hasUpdate = false) (hT : c.ftarget = none) (hg : c.gtol = .const a)
    (i : Init K) (sB : St K)
    (hi : initEval u { c with checkpoint := some ck, x0 := s.x } = .ok i)
    (hp : prepare u { c with checkpoint := some ck, x0 := s.x } i = .ok sB) :
    ∃ sfB, SFR s.sf sfB ∧ sB = reState s sfB [] [] := by
  have hi' : i = { x := s.x, X := (restoreXG s.x ck.jac ck.sk ck.yk c.maxcor).1,
                   G := (restoreXG s.x ck.jac ck.sk ck.yk c.maxcor).2,
                   sf := { SF.new c.mode s.x c.lb c.ub with nfev := ck.nfev, ngev := ck.njev },
                   f0 := ck.f, ftarget := none, gtol := a, nit := ck.nit } := by
    obtain ⟨sf, f0, he, e⟩ := initEval_plain (c := { c with checkpoint := some ck, x0 := s.x }) hT hg hi
    obtain ⟨ck', hck', rfl, rfl⟩ := (firstEval_ok he).resolve_left fun h' => nomatch h'.1
    cases hck'
    rw [e]
    simp only [hs.inbox]
  have hsc : i.sf.scale = 1 := hi' ▸ rfl
  have hprep := prepare_restart u { c with checkpoint := some ck, x0 := s.x } ck rfl hS hU (fun t => mul_one t) i hsc sB hp
  refine ⟨{ SF.new c.mode s.x c.lb c.ub with nfev := ck.nfev, ngev := ck.njev }, ?_, ?_⟩
  · exact ⟨hs.sf_mode, hs.sf_lb, hs.sf_ub, hs.sf_x, hck.nfev.symm, hck.njev.symm, hs.sf_scale⟩
  · have hmem := restartMemory_of_history X' G' s.x s.g c.maxcor c.epsSY hs.lenX hs.lenG hs.hlen hs.hb hs.curv
    rw [← hs.hX, ← hs.hG, ← hs.mats] at hmem
    subst hi'
    -- the restart's initial memory is `restartMemory` of the checkpoint's pairs, and that is the history
    rw [hprep, hck.jac, hck.sk, hck.yk, initMemory_restart _ _ (diffs s.X) (diffs s.G) rfl rfl rfl]
    dsimp only [Init.state]
    rw [hmem, reState, ← hck.f, ← hck.nit, hs.task, hs.success, hs.warnflag, hs.ftarget, hs.gtol]

/-- **C06 / C07 (the restart continues the run)** from the state rebuilt out of the checkpoint, the
loop of the restart computes what the loop of the uninterrupted run computes from the state the
checkpoint is a snapshot of — whatever the number of further iterations — up to the ghost logs and
the wrapper's cache: same iterates, values, gradients, correction pairs, counters, termination. -/
theorem restart_continues (u : User K ε) (o : Oracles K δ) (c : Cfg K) (s : St K) (X' G' : List (Vec K)) (a : K)
    (ck : Result K) (hs : Restartable c s X' G' a) (hck : SnapshotOf ck s)
    (hS : c.hasScaler = false) (hU : c.hasUpdate = false) (hT : c.ftarget = none) (hg : c.gtol = .const a)
    (hcb : ∀ r, u.callback r = .ok false)
    (i : Init K) (sB : St K)
    (hi : initEval u { c with checkpoint := some ck, x0 := s.x } = .ok i)
    (hp : prepare u { c with checkpoint := some ck, x0 := s.x } i = .ok sB)
    (fuel : Nat)
    (hfe : guard c s = true → FirstEval o c s.x s.f s.g (vsub (o.xbar s.x s.g s.mats) s.x) s.nit
      (min c.maxls (c.maxfun - s.sf.nfev))) :
    (mainLoop u o c fuel s).map St.er2 =
      (mainLoop u o { c with checkpoint := some ck, x0 := s.x } fuel sB).map St.er2 := by
  obtain ⟨sfB, hr, hsB⟩ := restart_state u c s X' G' a ck hs hck hS hU hT hg i sB hi hp
  rw [hsB]
  exact mainLoop_fresh_cfg u o hcb (c' := { c with checkpoint := some ck, x0 := s.x }) rfl rfl fuel s sfB [] [] hr
    hs.sf_x hfe

theorem restart_same_result (u : User K ε) (o : Oracles K δ) (c : Cfg K) (s : St K) (X' G' : List (Vec K)) (a : K)
    (ck : Result K) (hs : Restartable c s X' G' a) (hck : SnapshotOf ck s)
    (hS : c.hasScaler = false) (hU : c.hasUpdate = false) (hT : c.ftarget = none) (hg : c.gtol = .const a)
    (hcb : ∀ r, u.callback r = .ok false)
    (i : Init K) (sB : St K)
    (hi : initEval u { c with checkpoint := some ck, x0 := s.x } = .ok i)
    (hp : prepare u { c with checkpoint := some ck, x0 := s.x } i = .ok sB)
    (fuel : Nat)
    (hfe : guard c s = true → FirstEval o c s.x s.f s.g (vsub (o.xbar s.x s.g s.mats) s.x) s.nit
      (min c.maxls (c.maxfun - s.sf.nfev)))
    (tA tB : St K) (hA : mainLoop u o c fuel s = .ok tA)
    (hB : mainLoop u o { c with checkpoint := some ck, x0 := s.x } fuel sB = .ok tB) :
    (classify c tA).result = (classify { c with checkpoint := some ck, x0 := s.x } tB).result := by
  have h := restart_continues u o c s X' G' a ck hs hck hS hU hT hg hcb i sB hi hp fuel hfe
  rw [hA, hB] at h
  exact result_sim (c' := { c with checkpoint := some ck, x0 := s.x }) rfl (fun h => h.1) (fun h => h.2)
    (StRel.of_er2 (Except.ok.inj h))

/-! ### Non-vacuity (ℚ): f(x) = ½|x|² on [−2,2]², the state after one iteration from (1,1) with the
kernels proposing x/2 and a stepper accepting the unit step: all hypotheses of `restart_continues`
hold together, the restart's `initEval`/`prepare` succeed, and the first line search of the
continuation evaluates at x/2 ≠ x. -/

def simUser : User ℚ Unit :=
  { F := fun x => .ok (dot x x / 2), Gr := fun x => .ok x, fdPts := fun _ _ => [], fdComb := fun x _ _ => x,
    callback := fun _ => .ok false, update := fun i => .ok ⟨i.f0, i.f0Old, i.grad, i.G⟩,
    scaler := fun _ _ => .ok 1, ftargetFn := fun _ => .ok 0, gtolFn := fun _ => .ok 0 }

def simOracles : Oracles ℚ Unit :=
  { xbar := fun x _ _ => smul (1 / 2) x, dcNew := fun _ _ _ _ _ _ => (),
    dcIter := fun _ stp _ _ task => match task with | .start => ((), 1, .fg) | _ => ((), stp, .conv) }

def simCfg : Cfg ℚ :=
  { x0 := [1, 1], lb := [-2, -2], ub := [2, 2], mode := .callable, maxcor := 2, maxiter := 5, maxfun := 100, maxls := 20,
    ftol := 0, gtol := .const (1 / 1000), ftarget := none, maxStep := 100, ftolLS := 1 / 1000, gtolLS := 9 / 10, xtolLS := 1 / 10,
    epsSY := 0, hasCallback := false, hasUpdate := false, hasScaler := false, checkpoint := none }

def simState : St ℚ :=
  { x := [1 / 2, 1 / 2], f := 1 / 4, g := [1 / 2, 1 / 2], X := [[1, 1], [1 / 2, 1 / 2]], G := [[1, 1], [1 / 2, 1 / 2]],
    mats := some ([[1, 1], [1 / 2, 1 / 2]], [[1, 1], [1 / 2, 1 / 2]]),
    sf := { mode := .callable, lb := [-2, -2], ub := [2, 2], x := [1 / 2, 1 / 2], f := 1 / 4, g := [1 / 2, 1 / 2], fUpd := true,
            gUpd := true, nfev := 2, ngev := 2, scale := 1, log := [] },
    nit := 1, task := .start, success := false, warnflag := 2, ftarget := none, gtol := 1 / 1000, cbStates := [], olog := [] }

theorem sim_restartable : Restartable simCfg simState [[1, 1]] [[1, 1]] (1 / 1000) where
  hX := rfl
  hG := rfl
  lenX := allLen_cons.2 ⟨rfl, allLen_cons.2 ⟨rfl, allLen_nil _⟩⟩
  lenG := allLen_cons.2 ⟨rfl, allLen_cons.2 ⟨rfl, allLen_nil _⟩⟩
  hlen := rfl
  hb := by decide
  curv := fun _ => by decide +kernel
  mats := by decide +kernel
  sf_mode := rfl
  sf_lb := rfl
  sf_ub := rfl
  sf_scale := rfl
  sf_x := rfl
  task := rfl
  success := rfl
  warnflag := rfl
  ftarget := rfl
  gtol := rfl
  inbox := by decide +kernel

theorem sim_firstEval : FirstEval simOracles simCfg simState.x simState.f simState.g
    (vsub (simOracles.xbar simState.x simState.g simState.mats) simState.x) simState.nit
    (min simCfg.maxls (simCfg.maxfun - simState.sf.nfev)) := by
  refine ⟨by decide, rfl, by decide +kernel⟩

theorem sim_restart : ∃ i sB,
    initEval simUser { simCfg with checkpoint := some simState.result, x0 := simState.x } = .ok i ∧
    prepare simUser { simCfg with checkpoint := some simState.result, x0 := simState.x } i = .ok sB :=
  exists_ok_bind (by decide +kernel)

/-- all the hypotheses of `restart_continues` hold of this instance (three further iterations) -/
example : ∃ sB, (mainLoop simUser simOracles simCfg 3 simState).map St.er2 =
    (mainLoop simUser simOracles { simCfg with checkpoint := some simState.result, x0 := simState.x } 3 sB).map St.er2 := by
  obtain ⟨i, sB, hi, hp⟩ := sim_restart
  exact ⟨sB, restart_continues simUser simOracles simCfg simState _ _ _ simState.result sim_restartable
    (snapshot_result _) rfl rfl rfl rfl (fun _ => rfl) i sB hi hp 3 (fun _ => sim_firstEval)⟩

end Lbfgsb.C06
