/-
  C10 — the compact representation IS the BFGS matrix of the stored pairs (Byrd–Nocedal–Schnabel, Theorem 2.3).
  For pairs `(s_k, y_k)` (oldest first) and `θ`: `W` has one column `θ s_k` and one column `y_k` per pair, `N` is
  `[[−D, Lᵀ], [L, θ SᵀS]]` of bfgsmats.py up to the order of the indices (`Wl`, `Nl`, built by bordering in Proofs/CompactBfgs.lean).
  Whenever no update of the chain is degenerate (`sᵀBs ≠ 0`, `sᵀy ≠ 0`: positive curvature), `N` is invertible with the constructed
  inverse `Ninvl` — no exact-solve hypothesis — and `θ I − W N⁻¹ Wᵀ` is the dense recursion from `θ I`. `compact_eq_bfgs` uses no order
  (non-degeneracy is `≠ 0`), though the file's variables are an ordered field; `nonDeg_of_curvature` is where the order enters.
  By correspondence only: that the triangular factorisation of the code (`invMfactors`, `bmv`) solves with this `N` up to rounding.
-/
import LbfgsbVerif.Proofs.CompactBfgs

namespace Lbfgsb.C10
open Matrix CompactBfgs
variable {n : Type} [Fintype n] [DecidableEq n]
variable {K : Type} [Field K]

theorem bfgsChain_rev (θ : K) (ps acc : List ((n → K) × (n → K))) :
    bfgsChain (bfgsRev θ acc) ps = bfgsRev θ (ps.reverse ++ acc) := by
  induction ps generalizing acc with
  | nil => rfl
  | cons p ps ih =>
    simp only [bfgsChain, List.reverse_cons, List.append_assoc, List.singleton_append]
    exact ih (p :: acc)

theorem bfgsRev_reverse (θ : K) (ps : List ((n → K) × (n → K))) :
    bfgsRev θ ps.reverse = bfgsChain (θ • (1 : Matrix n n K)) ps := by
  rw [← List.append_nil ps.reverse, ← bfgsChain_rev]
  rfl

variable [LinearOrder K] [IsStrictOrderedRing K]

/-- **C10 — compact = dense.** For pairs `ps` (oldest first) none of whose updates is degenerate, the bordered `Nl` has the
constructed `Ninvl` as inverse and `θ I − Wl Ninvl Wlᵀ` is `bfgsChain (θ I) ps`. `Wl`, `Nl` list the pairs newest first, hence `ps.reverse`. -/
theorem compact_eq_bfgs (θ : K) (ps : List ((n → K) × (n → K))) (h : NonDeg θ ps.reverse) :
    Nl θ ps.reverse * Ninvl θ ps.reverse = 1 ∧
    θ • (1 : Matrix n n K) - Wl θ ps.reverse * Ninvl θ ps.reverse * (Wl θ ps.reverse)ᵀ =
      bfgsChain (θ • (1 : Matrix n n K)) ps := by
  obtain ⟨h1, -, h3⟩ := CompactBfgs.compact_eq_bfgs θ ps.reverse h
  refine ⟨h1, ?_⟩
  rw [h3, bfgsRev_reverse]

theorem nonDeg_of_curvature (θ : K) (hθ : 0 < θ) (l : List ((n → K) × (n → K)))
    (hp : ∀ p ∈ l, p.1 ≠ 0 ∧ 0 < p.1 ⬝ᵥ p.2) : NonDeg θ l ∧ SPD (bfgsRev θ l) := by
  induction l with
  | nil => exact ⟨trivial, scaled_identity_spd θ hθ⟩
  | cons p l ih =>
    obtain ⟨hnd, hspd⟩ := ih (fun q hq => hp q (List.mem_cons_of_mem _ hq))
    obtain ⟨hs, hsy⟩ := hp p (List.mem_cons_self ..)
    refine ⟨⟨ne_of_gt (hspd.2 p.1 hs), ne_of_gt hsy, hnd⟩, ?_⟩
    exact bfgs_posdef _ hspd p.1 p.2 hs hsy

/-- **C10 — for positive-curvature pairs** (`s ≠ 0`, `sᵀy > 0`, `θ > 0`) the hypothesis of `compact_eq_bfgs` holds, and the
matrix is SPD. -/
theorem compact_eq_bfgs_of_curvature (θ : K) (hθ : 0 < θ) (ps : List ((n → K) × (n → K)))
    (hp : ∀ p ∈ ps, p.1 ≠ 0 ∧ 0 < p.1 ⬝ᵥ p.2) :
    θ • (1 : Matrix n n K) - Wl θ ps.reverse * Ninvl θ ps.reverse * (Wl θ ps.reverse)ᵀ =
      bfgsChain (θ • (1 : Matrix n n K)) ps ∧
    SPD (bfgsChain (θ • (1 : Matrix n n K)) ps) := by
  have hnd := (nonDeg_of_curvature θ hθ ps.reverse (fun p hq => hp p (List.mem_reverse.1 hq))).1
  exact ⟨(compact_eq_bfgs θ ps hnd).2, bfgs_chain_posdef _ (scaled_identity_spd θ hθ) ps hp⟩

end Lbfgsb.C10
