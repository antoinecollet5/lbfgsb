/-
  C08 / C09 — the composed iteration of the model (Cauchy point, then subspace step, on the kernels' own matrices built from a stored
  history with at least one pair) in other units: with the objective multiplied by `a > 0` and the variables by `b > 0` — `x → b x`,
  `g → (a/b) g`, box and history points scaled by `b`, history gradients by `a/b` — the point the iteration aims its line search at is the
  rescaled point. Hypotheses: those of C01 `complete_iteration_descent_curv` for the original problem (history of vectors of the length
  of `x` whose consecutive pairs have positive curvature, `θ > 0`, feasible `x`, inactive floor) and the inactive floor for the rescaled one
  (with `e = 0`, exact arithmetic, both floors are vacuous).
-/
import LbfgsbVerif.Proofs.UnitsKernel
import LbfgsbVerif.Props.C01Curv
import LbfgsbVerif.Props.C08Units
import LbfgsbVerif.Props.C09Units
import LbfgsbVerif.Proofs.FullNewton

namespace Lbfgsb.C09
open Lbfgsb Matrix CompactKernel Lbfgsb.Units Lbfgsb.C01
variable {K : Type} [Field K] [LinearOrder K] [IsStrictOrderedRing K]

theorem iteration_units (a b : K) (ha : 0 < a) (hb : 0 < b) (lb ub : Vec K) (e : K) (x g : Vec K) (X G : List (Vec K))
    (hX : X.length > 1) (hXG : X.length = G.length) (hn : 0 < x.length)
    (hS : ∀ j, j < (diffs X).length → ((diffs X).getD j []).length = x.length)
    (hY : ∀ j, j < (diffs X).length → ((diffs G).getD j []).length = x.length)
    (hcurv : ∀ j, j < (diffs X).length → vec x.length ((diffs X).getD j []) ≠ 0 ∧
      0 < vec x.length ((diffs X).getD j []) ⬝ᵥ vec x.length ((diffs G).getD j []))
    (hθ : 0 < thetaOf X G) (box : InBoxF lb ub x)
    (floor : ∀ dd : Fin x.length → K, dd ≠ 0 →
      (∀ r, dd r = 0 ∨ dd r = vec x.length (cauchyD0 (breakpoints x (fitTo x g) lb ub) (fitTo x g)) r) →
      e * f2orgOf (kernelInput x g lb ub (some (X, G)) e) ≤
        dd ⬝ᵥ (C10.bfgsChain ((thetaOf X G) • (1 : Matrix (Fin x.length) (Fin x.length) K))
          (pairsOf x.length (diffs X) (diffs G)) *ᵥ dd))
    (floor' : ∀ dd : Fin x.length → K, dd ≠ 0 →
      (∀ r, dd r = 0 ∨ dd r = vec x.length (cauchyD0 (breakpoints (smul b x) (fitTo (smul b x) (smul (a / b) g)) (smul b lb) (smul b ub))
        (fitTo (smul b x) (smul (a / b) g))) r) →
      e * f2orgOf (kernelInput (smul b x) (smul (a / b) g) (smul b lb) (smul b ub) (some (X.map (smul b), G.map (smul (a / b)))) e) ≤
        dd ⬝ᵥ (C10.bfgsChain ((thetaOf (X.map (smul b)) (G.map (smul (a / b)))) • (1 : Matrix (Fin x.length) (Fin x.length) K))
          (pairsOf x.length (diffs (X.map (smul b))) (diffs (G.map (smul (a / b))))) *ᵥ dd)) :
    xbarModel (smul b lb) (smul b ub) e (smul b x) (smul (a / b) g) (some (X.map (smul b), G.map (smul (a / b)))) =
      smul b (xbarModel lb ub e x g (some (X, G))) := by
  have hbne : b ≠ 0 := ne_of_gt hb
  have hane : a ≠ 0 := ne_of_gt ha
  obtain ⟨Mm, ⟨hk, hmin, hxc, spec⟩, hBm⟩ := kernel_ctx x.length lb ub e x g X G rfl hX hXG hn hS hY hcurv hθ box floor
  have hX' : (X.map (smul b)).length > 1 := by rwa [List.length_map]
  have hXG' : (X.map (smul b)).length = (G.map (smul (a / b))).length := by rwa [List.length_map, List.length_map]
  have hdl : (diffs (X.map (smul b))).length = (diffs X).length := by rw [diffs_map_smul, List.length_map]
  have hS' : ∀ j, j < (diffs (X.map (smul b))).length → ((diffs (X.map (smul b))).getD j []).length = x.length := by
    intro j hj
    rw [diffs_map_smul, getD_map_smul, smul_length]
    exact hS j (by rwa [hdl] at hj)
  have hY' : ∀ j, j < (diffs (X.map (smul b))).length → ((diffs (G.map (smul (a / b)))).getD j []).length = x.length := by
    intro j hj
    rw [diffs_map_smul, getD_map_smul, smul_length]
    exact hY j (by rwa [hdl] at hj)
  have hcurv' : ∀ j, j < (diffs (X.map (smul b))).length → vec x.length ((diffs (X.map (smul b))).getD j []) ≠ 0 ∧
      0 < vec x.length ((diffs (X.map (smul b))).getD j []) ⬝ᵥ vec x.length ((diffs (G.map (smul (a / b)))).getD j []) := by
    intro j hj
    obtain ⟨h1, h2⟩ := hcurv j (by rwa [hdl] at hj)
    rw [diffs_map_smul, diffs_map_smul, getD_map_smul, getD_map_smul, vec_smul, vec_smul]
    refine ⟨smul_ne_zero hbne h1, ?_⟩
    rw [smul_dotProduct, dotProduct_smul, smul_eq_mul, smul_eq_mul, ← mul_assoc, mul_div_cancel₀ _ hbne]
    exact mul_pos ha h2
  have hθ' : 0 < thetaOf (X.map (smul b)) (G.map (smul (a / b))) := by
    rw [thetaOf_units a b hane hbne X G hX hXG]
    exact mul_pos (factor_pos ha hb) hθ
  obtain ⟨Mm', ⟨hk', hmin', -, spec'⟩, hBm'⟩ := kernel_ctx x.length (smul b lb) (smul b ub) e (smul b x) (smul (a / b) g)
    (X.map (smul b)) (G.map (smul (a / b))) (smul_length b x) hX' hXG' hn hS' hY' hcurv' hθ' (inBoxF_smul b hb _ _ _ box) floor'
  have hsame : SameProblem a b (kernelInput x g lb ub (some (X, G)) e)
      (kernelInput (smul b x) (smul (a / b) g) (smul b lb) (smul b ub) (some (X.map (smul b), G.map (smul (a / b)))) e) := by
    rw [kernelInput_some lb ub e x g X G hX, kernelInput_some _ _ e _ _ _ _ hX']
    exact ⟨rfl, fitTo_smul b (a / b) x g, rfl, rfl⟩
  have hB := hBm'.trans ((historyChain_units a b hane hbne x.length X G hX hXG).trans (congrArg ((a / (b * b)) • ·) hBm.symm))
  have hcu := C08.cauchy_point_units a b ha hb _ _ x.length _ _ Mm Mm' hsame hk hmin hk' hmin' hB
  exact subspace_point_units a b ha hb (subInOf _) (subInOf _) x.length _ _ Mm Mm' hsame hcu hmin.q.hx hmin.q.hg hxc spec spec' hB hmin.pd

/-- **… in exact arithmetic (`e = 0`: the Fortran floor has no role)**: no hypothesis on the rescaled problem at all -/
theorem iteration_units_nofloor (a b : K) (ha : 0 < a) (hb : 0 < b) (lb ub : Vec K) (x g : Vec K) (X G : List (Vec K))
    (hX : X.length > 1) (hXG : X.length = G.length) (hn : 0 < x.length)
    (hS : ∀ j, j < (diffs X).length → ((diffs X).getD j []).length = x.length)
    (hY : ∀ j, j < (diffs X).length → ((diffs G).getD j []).length = x.length)
    (hcurv : ∀ j, j < (diffs X).length → vec x.length ((diffs X).getD j []) ≠ 0 ∧
      0 < vec x.length ((diffs X).getD j []) ⬝ᵥ vec x.length ((diffs G).getD j []))
    (hθ : 0 < thetaOf X G) (box : InBoxF lb ub x) :
    xbarModel (smul b lb) (smul b ub) 0 (smul b x) (smul (a / b) g) (some (X.map (smul b), G.map (smul (a / b)))) =
      smul b (xbarModel lb ub 0 x g (some (X, G))) := by
  have hbne : b ≠ 0 := ne_of_gt hb
  have hane : a ≠ 0 := ne_of_gt ha
  have hSY : (diffs X).length = (diffs G).length := by rw [diffs_length, diffs_length, hXG]
  have hp := CompactKernel.pairsOf_curv x.length (diffs X) (diffs G) hSY hcurv
  have hspd := C10.bfgs_chain_posdef _ (C10.scaled_identity_spd (thetaOf X G) hθ) (pairsOf x.length (diffs X) (diffs G)) hp
  apply iteration_units a b ha hb lb ub 0 x g X G hX hXG hn hS hY hcurv hθ box
  · intro dd hne _
    rw [zero_mul]
    exact le_of_lt (hspd.2 dd hne)
  · intro dd hne _
    rw [zero_mul, historyChain_units a b hane hbne x.length X G hX hXG, smul_mulVec, dotProduct_smul, smul_eq_mul]
    exact mul_nonneg (factor_pos ha hb).le (le_of_lt (hspd.2 dd hne))

/-- **C17 at the level of the kernels (exact arithmetic)**: multiplying the objective by any `a > 0` — gradient and stored gradients
multiplied by `a`, as a gradient scaler returning `a` does — leaves the point the iteration aims at unchanged -/
theorem iteration_objective_scale (a : K) (ha : 0 < a) (lb ub : Vec K) (x g : Vec K) (X G : List (Vec K))
    (hX : X.length > 1) (hXG : X.length = G.length) (hn : 0 < x.length)
    (hS : ∀ j, j < (diffs X).length → ((diffs X).getD j []).length = x.length)
    (hY : ∀ j, j < (diffs X).length → ((diffs G).getD j []).length = x.length)
    (hcurv : ∀ j, j < (diffs X).length → vec x.length ((diffs X).getD j []) ≠ 0 ∧
      0 < vec x.length ((diffs X).getD j []) ⬝ᵥ vec x.length ((diffs G).getD j []))
    (hθ : 0 < thetaOf X G) (box : InBoxF lb ub x) :
    xbarModel lb ub 0 x (smul a g) (some (X, G.map (smul a))) = xbarModel lb ub 0 x g (some (X, G)) := by
  have h := iteration_units_nofloor a 1 ha one_pos lb ub x g X G hX hXG hn hS hY hcurv hθ box
  have e1 : smul (1 : K) = id := funext smul_one'
  simpa only [e1, id_eq, List.map_id, div_one] using h

/-! ### Non-vacuity (ℚ): the instance of C01Curv (`f = ½|x|²` on `[−2, 2]²`, history `(1,1) → (½,½)`, current point `(½,½)`), objective
multiplied by 3, variables by 5 -/

example : xbarModel (smul 5 [-2, -2]) (smul 5 [2, 2]) 0 (smul 5 [1 / 2, 1 / 2]) (smul (3 / 5) [1 / 2, 1 / 2])
      (some (cvX.map (smul 5), cvX.map (smul (3 / 5)))) =
    smul 5 (xbarModel [-2, -2] [2, 2] (0 : ℚ) [1 / 2, 1 / 2] [1 / 2, 1 / 2] (some (cvX, cvX))) := by
  refine iteration_units_nofloor 3 5 (by decide +kernel) (by decide +kernel) [-2, -2] [2, 2] [1 / 2, 1 / 2] [1 / 2, 1 / 2] cvX cvX
    (by decide) rfl (by decide) (by decide +kernel) (by decide +kernel) (by decide +kernel) (by decide +kernel) ?_
  simp only [InBoxF]
  decide +kernel

end Lbfgsb.C09
