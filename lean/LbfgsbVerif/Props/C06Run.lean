/-
  C06 at run level — "a restart that performs no iteration returns the same correction pairs".

  Ordered field (exact arithmetic), about the driver model `minimize`: restarted from a checkpoint
  `ck` with `maxiter ≤ ck.nit` (so the loop guard fails at once), without scaler (finding K1),
  update function or target, the run returns `ck`'s iteration count, the (clipped) start, and as
  correction pairs the most recent `min(m, maxcor)` pairs of the checkpoint, in order, for `sk` and
  `yk` alike — all of them when `maxcor` is not reduced.
  Hypothesis `hcurv`: the re-inserted current point passes the curvature test against the rebuilt
  predecessor — in exact arithmetic the very test the pair passed when it was stored (in floating
  point the rebuilt predecessor is rounded: finding K2; when the checkpoint's `x` is not the end
  of its history the test is a different one: finding K4).
-/
import LbfgsbVerif.Proofs.Restart
import LbfgsbVerif.Proofs.C11

namespace Lbfgsb.C06
variable {K ε δ : Type} [Field K] [LinearOrder K] [IsStrictOrderedRing K]
attribute [local instance] fieldFloatLike

theorem restoreXG_length_pos (x jac : Vec K) (sk yk : List (Vec K)) (maxcor : Nat) (hne : sk ≠ []) :
    (restoreXG x jac sk yk maxcor).1.length > 0 := by
  have : 0 < sk.length := List.length_pos_iff.2 hne
  rw [restoreXG_of_ne_nil x jac yk maxcor hne, List.length_drop, List.length_map, revCumsum_length]
  omega

/-- **C06 (run level)** a restart that performs no iteration returns the checkpoint's (most
recent) correction pairs. -/
theorem restart_noiter_same_pairs (u : User K ε) (o : Oracles K δ) (c : Cfg K) (ck : Result K)
    (hck : c.checkpoint = some ck) (hT : c.ftarget = none) (hS : c.hasScaler = false)
    (hU : c.hasUpdate = false) (hnit : c.maxiter ≤ ck.nit)
    (hs : AllLen (clip c.x0 c.lb c.ub).length ck.sk) (hy : AllLen ck.jac.length ck.yk)
    (hlen : ck.sk.length = ck.yk.length)
    (hcurv : ck.sk ≠ [] → curvOk (clip c.x0 c.lb c.ub) ck.jac
      (lastD (restoreXG (clip c.x0 c.lb c.ub) ck.jac ck.sk ck.yk c.maxcor).1)
      (lastD (restoreXG (clip c.x0 c.lb c.ub) ck.jac ck.sk ck.yk c.maxcor).2) c.epsSY = true)
    (r : Result K) (s : St K) (h : minimize u o c = .ok (r, s)) :
    r.sk = ck.sk.drop (ck.sk.length - c.maxcor) ∧ r.yk = ck.yk.drop (ck.yk.length - c.maxcor) ∧
      r.nit = ck.nit ∧ r.x = clip c.x0 c.lb c.ub := by
  obtain ⟨hx, hn, hsk, hyk⟩ := minimize_restart_noiter u o c ck hck hT hS hU (fun a => mul_one a) hnit r s h
  rw [hsk, hyk]
  by_cases hne : ck.sk = []
  · have hyne : ck.yk = [] := List.length_eq_zero_iff.1 (hlen.symm.trans (congrArg List.length hne))
    rw [hne, hyne, List.drop_nil]
    exact ⟨rfl, rfl, hn, hx⟩
  · have hpos := restoreXG_length_pos (clip c.x0 c.lb c.ub) ck.jac ck.sk ck.yk c.maxcor hne
    rw [if_pos hpos, if_pos hpos]
    obtain ⟨h1, h2, -, -⟩ :=
      restore_keeps_most_recent _ ck.jac ck.sk ck.yk c.maxcor c.epsSY hs hy hlen hne (hcurv hne)
    exact ⟨h1, h2, hn, hx⟩

/-! ### Non-vacuity (ℚ): f(x) = ½|x|² on [−2,2]², a checkpoint after two iterations carrying two pairs,
restarted with `maxiter = 2 ≤ nit`: the hypotheses hold and the model run terminates normally. -/

def exUser : User ℚ Unit :=
  { F := fun x => .ok (dot x x / 2), Gr := fun x => .ok x, fdPts := fun _ _ => [], fdComb := fun x _ _ => x,
    callback := fun _ => .ok false, update := fun i => .ok ⟨i.f0, i.f0Old, i.grad, i.G⟩,
    scaler := fun _ _ => .ok 1, ftargetFn := fun _ => .ok 0, gtolFn := fun _ => .ok 0 }

def exOracles : Oracles ℚ Unit := { xbar := fun x _ _ => x, dcNew := fun _ _ _ _ _ _ => (), dcIter := fun _ s _ _ _ => ((), s, .error) }

def exCk : Result ℚ :=
  { x := [1 / 4, 1 / 4], f := 1 / 16, jac := [1 / 4, 1 / 4], nfev := 3, njev := 3, nit := 2, status := 1, msg := .iterLimit,
    success := true, sk := [[-1, -1], [-3 / 4, -3 / 4]], yk := [[-1, -1], [-3 / 4, -3 / 4]] }

def exCfg : Cfg ℚ :=
  { x0 := [1 / 4, 1 / 4], lb := [-2, -2], ub := [2, 2], mode := .callable, maxcor := 5, maxiter := 2, maxfun := 100, maxls := 20,
    ftol := 0, gtol := .const (1 / 1000), ftarget := none, maxStep := 100, ftolLS := 1 / 1000, gtolLS := 9 / 10, xtolLS := 1 / 10,
    epsSY := 0, hasCallback := false, hasUpdate := false, hasScaler := false, checkpoint := some exCk }

example : (minimize exUser exOracles exCfg).toBool = true := by decide +kernel

/-- the curvature hypothesis of the theorem holds on this instance -/
example : curvOk (clip exCfg.x0 exCfg.lb exCfg.ub) exCk.jac
    (lastD (restoreXG (clip exCfg.x0 exCfg.lb exCfg.ub) exCk.jac exCk.sk exCk.yk exCfg.maxcor).1)
    (lastD (restoreXG (clip exCfg.x0 exCfg.lb exCfg.ub) exCk.jac exCk.sk exCk.yk exCfg.maxcor).2) exCfg.epsSY = true := by
  decide +kernel

/-- … and the run returns the checkpoint's pairs -/
example : (match minimize exUser exOracles exCfg with | .ok (r, _) => decide (r.sk = exCk.sk ∧ r.yk = exCk.yk) | .error _ => false) = true := by
  decide +kernel

end Lbfgsb.C06
