/-
  C13 — run-level theorems (kept apart from Props/C13.lean, whose filter theorems they use).

  * `identity_update_transparent`: a run whose update function returns its inputs unchanged
    returns the same result — same error, or equal `x, fun, jac`, counters, iteration count,
    message, success flag and correction pairs — as the run without an update function, for every
    objective, kernel, stepper, box, start, budget, callback, scaler and target (fresh run,
    `maxcor ≥ 1`). Proved by a simulation over the whole driver (Proofs/Identity.lean) under the
    memory invariant "consecutive stored pairs pass the curvature test and the matrices snapshot
    is the current history". One IEEE-exact law is used besides order-free reasoning: the
    curvature test does not depend on the order of its two points (`(a − b) = −(b − a)` and
    `(−p)(−q) = pq` exactly), stated as hypothesis `hsym`.
-/
import LbfgsbVerif.Proofs.Identity
import LbfgsbVerif.Props.C05

namespace Lbfgsb.C13
variable {α ε δ : Type}
variable [Add α] [Sub α] [Mul α] [Div α] [Neg α] [LT α] [DecidableLT α] [OfNat α 0] [OfNat α 1] [FloatLike α]

/-- **C13 (0)** an update function that returns its inputs unchanged leaves the run unchanged. -/
theorem identity_update_transparent (u : User α ε) (o : Oracles α δ) (c : Cfg α)
    (hid : ∀ i : UpdIn α, u.update i = .ok ⟨i.f0, i.f0Old, i.grad, i.G⟩)
    (hck : c.checkpoint = none) (hmc : 1 ≤ c.maxcor)
    (hsym : ∀ x g x' g' : Vec α, curvOk x g x' g' c.epsSY = curvOk x' g' x g c.epsSY) :
    RelE (fun p q => p.1 = q.1) (minimize u o { c with hasUpdate := true })
      (minimize u o { c with hasUpdate := false }) :=
  minimize_identity u o hid c hck hsym hmc

/-! ### the symmetry hypothesis holds in every commutative ring (and in IEEE arithmetic) -/
section ring
variable {R : Type} [CommRing R] [LT R] [DecidableLT R]

theorem foldl_dot_neg (u v : List R) (acc : R) :
    (vzip (· * ·) (u.map (-·)) (v.map (-·))).foldl (· + ·) acc = (vzip (· * ·) u v).foldl (· + ·) acc := by
  rw [vzip_map (χ := id) (fun a b => neg_mul_neg a b), List.map_id]

theorem vsub_swap (a b : Vec R) : vsub a b = (vsub b a).map (-·) := by
  simp only [vsub, vzip_eq_zipWith, List.map_zipWith, neg_sub]
  exact List.zipWith_comm

theorem curv_test_symmetric (x g x' g' : Vec R) (eps : R) : curvOk x g x' g' eps = curvOk x' g' x g eps := by
  have h1 : dot (vsub g g') (vsub g g') = dot (vsub g' g) (vsub g' g) := by
    rw [vsub_swap g g']
    exact foldl_dot_neg _ _ _
  have h2 : dot (vsub x x') (vsub g g') = dot (vsub x' x) (vsub g' g) := by
    rw [vsub_swap g g', vsub_swap x x']
    exact foldl_dot_neg _ _ _
  unfold curvOk
  simp only [h1, h2]

end ring

/-! ### Non-vacuity over ℤ: the example user of C05 has an identity update; both runs give the
same result -/
example : ∀ i : UpdIn ℤ, C05.uZ.update i = .ok ⟨i.f0, i.f0Old, i.grad, i.G⟩ := fun _ => rfl

example : ∃ r s r' s', minimize C05.uZ C05.oZ { C05.cZ with hasUpdate := true } = .ok (r, s) ∧
    minimize C05.uZ C05.oZ { C05.cZ with hasUpdate := false } = .ok (r', s') ∧
    r.x = r'.x ∧ r.f = r'.f ∧ r.jac = r'.jac ∧ r.nfev = r'.nfev ∧ r.nit = r'.nit ∧ r.sk = r'.sk ∧ r.nit = 2 :=
  exists_ok₂_of_decide (by decide +kernel)

end Lbfgsb.C13
