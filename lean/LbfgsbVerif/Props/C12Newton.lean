/-
  C12 — when no bound interferes, the point the model's iteration proposes is the L-BFGS quasi-Newton point.
  Algorithm 778 restricted to an unconstrained problem is the limited-memory BFGS method: the search direction is `−H g`, `H` the
  inverse BFGS matrix of the stored pairs started from `θ⁻¹ I`, which is what the two-loop recursion computes. The package never
  runs a two-loop recursion: it computes a generalized Cauchy point and then solves a `2m × 2m` system (direct primal method).
  The chains of inverse updates from `θ⁻¹ I` and of direct updates from `θ I` are inverse to each other (Proofs/BfgsInverse), the
  kernels' matrix is the direct chain (C10 `kernel_matrix_is_bfgs`); so with the Cauchy point strictly inside the box and the
  quasi-Newton point in the box `subspaceMin` lands on the latter (`full_step_point`) — whatever the Cauchy point was, no hypothesis on
  any solve. The coincidence of the evaluation-point sequences with SciPy's L-BFGS-B in floating point remains a differential
  (harness/props/c12.py); these theorems say why the sequences coincide in exact arithmetic.
-/
import LbfgsbVerif.Proofs.BfgsInverse
import LbfgsbVerif.Proofs.FullNewton
import LbfgsbVerif.Props.C01Curv
import LbfgsbVerif.Props.C08Free

namespace Lbfgsb.C12
open Lbfgsb Matrix CompactKernel CompactBridge CompactBfgs Lbfgsb.Gauss Lbfgsb.FullNewton Lbfgsb.C01
variable {K : Type} [Field K] [LinearOrder K] [IsStrictOrderedRing K]

/-- **C12 / C18 / C10** the inverse-update chain inverts the direct-update chain -/
theorem inv_chain_inverts_bfgs_chain {n : Type} [Fintype n] [DecidableEq n] (θ : K) (hθ : 0 < θ)
    (ps : List ((n → K) × (n → K))) (hp : ∀ p ∈ ps, p.1 ≠ 0 ∧ 0 < p.1 ⬝ᵥ p.2) :
    C18.invChain (θ⁻¹ • (1 : Matrix n n K)) ps * C10.bfgsChain (θ • (1 : Matrix n n K)) ps = 1 :=
  BfgsInverse.invChain_theta θ hθ ps hp

/-- the common core of the theorems below; `hq` says that `−q` is the only solution of `B w = −g` -/
theorem full_step_point (i : SubIn K) (n k : Nat) (Mm : Matrix (Fin k) (Fin k) K) (spec : SubSpec i n k Mm)
    (hn : 0 < n) (hxc : i.xc.length = n) (hint : StrictIn i.lb i.ub i.xc) (q : Fin n → K)
    (hq : ∀ w, bmat i.theta (wmat n k i.W) Mm *ᵥ w = -vec n i.g → w = -q)
    (hN : ∀ r : Fin n, vec n i.lb r ≤ (vec n i.x - q) r ∧ (vec n i.x - q) r ≤ vec n i.ub r) :
    vec n (subspaceMin i) = vec n i.x - q := by
  have hDl := spec.d_length
  have hw := hq _ (newton_of_spec i n k Mm spec hxc hint)
  have hpt : vec n (vadd i.xc (subD i)) = vec n i.x - q := by
    rw [vec_vadd n _ _ hxc hDl, sub_eq_add_neg (vec n i.x), ← hw]
    abel
  obtain ⟨hll, hul⟩ := inBoxF_lengths (inBoxF_of_strict hint)
  rw [← hpt] at hN
  have hfeas : InBoxF i.lb i.ub (vadd i.xc (subD i)) :=
    inBoxF_of_pointwise n _ _ _ (hll.trans hxc) (hul.trans hxc) (by rw [vadd_length, hxc, hDl, Nat.min_self])
      fun j hj => hN ⟨j, hj⟩
  rw [subspaceMin_full i n hn hxc hDl hint hfeas, hpt]

/-- **C12** the proposal of the model is the L-BFGS point `x − H g`, `H` the two-loop operator started from `θ⁻¹ I`, when no bound
interferes. -/
theorem newton_point_is_two_loop (i : SubIn K) (n : Nat) (S Y : List (Vec K)) (hn : 0 < n)
    (hWeq : i.W = buildW n i.theta S Y) (hMeq : i.Minv = buildMinv i.theta S Y)
    (hθ : 0 < i.theta) (h : S.length = Y.length)
    (hS : ∀ j, j < S.length → (S.getD j []).length = n) (hY : ∀ j, j < S.length → (Y.getD j []).length = n)
    (hcurv : ∀ j, j < S.length → vec n (S.getD j []) ≠ 0 ∧ 0 < vec n (S.getD j []) ⬝ᵥ vec n (Y.getD j []))
    (Mm : Matrix (Fin ((lOf n S Y).length + (lOf n S Y).length)) (Fin ((lOf n S Y).length + (lOf n S Y).length)) K)
    (hM : Mm * wmat ((lOf n S Y).length + (lOf n S Y).length) ((lOf n S Y).length + (lOf n S Y).length) i.Minv = 1)
    (hx : i.x.length = n) (hg : i.g.length = n) (hxc : i.xc.length = n)
    (hcl : i.c.length = (lOf n S Y).length + (lOf n S Y).length) (uf : i.useFactor = true)
    (hc : vec ((lOf n S Y).length + (lOf n S Y).length) i.c =
      (wmat n ((lOf n S Y).length + (lOf n S Y).length) i.W)ᵀ *ᵥ (vec n i.xc - vec n i.x))
    -- no bound interferes: the Cauchy point is strictly inside the box …
    (hint : StrictIn i.lb i.ub i.xc)
    -- … and so is (weakly) the quasi-Newton point
    (hN : ∀ r : Fin n,
      vec n i.lb r ≤ (vec n i.x - C18.twoLoop (i.theta⁻¹ • (1 : Matrix (Fin n) (Fin n) K)) (pairsOf n S Y) (vec n i.g)) r ∧
      (vec n i.x - C18.twoLoop (i.theta⁻¹ • (1 : Matrix (Fin n) (Fin n) K)) (pairsOf n S Y) (vec n i.g)) r ≤ vec n i.ub r) :
    vec n (subspaceMin i) =
      vec n i.x - C18.twoLoop (i.theta⁻¹ • (1 : Matrix (Fin n) (Fin n) K)) (pairsOf n S Y) (vec n i.g) := by
  obtain ⟨ctx, hB⟩ := C10.subCtxP_of_pairs i n S Y hn hWeq hMeq hθ h hS hY hcurv Mm hM hx hg hxc hcl
    (inBoxF_of_strict hint) uf hc
  exact full_step_point i n _ Mm (subspace_spec i n _ Mm _ ctx.toSubCtx) hn hxc hint _
    (fun w hw => BfgsInverse.newton_eq_two_loop i.theta hθ _ (pairsOf_curv n S Y h hcurv) _ w (hB ▸ hw)) hN

/-- **C12** … with an empty memory: steepest descent scaled by `1/θ`. -/
theorem newton_point_is_two_loop_nopairs (i : SubIn K) (n k : Nat) (hn : 0 < n)
    (hx : i.x.length = n) (hg : i.g.length = n) (hxc : i.xc.length = n) (hW : i.W.length = n)
    (hrow : ∀ r, r < n → (i.W.getD r []).length = k) (hθ : i.theta ≠ 0) (uf : i.useFactor = false)
    (hint : StrictIn i.lb i.ub i.xc)
    (hN : ∀ r : Fin n, vec n i.lb r ≤ (vec n i.x - i.theta⁻¹ • vec n i.g) r ∧
      (vec n i.x - i.theta⁻¹ • vec n i.g) r ≤ vec n i.ub r) :
    vec n (subspaceMin i) = vec n i.x - i.theta⁻¹ • vec n i.g := by
  refine full_step_point i n k 0 (subspace_spec0 i n k ⟨hx, hg, hxc, hW, hrow, inBoxF_of_strict hint, hθ, uf⟩) hn hxc hint _
    (fun w hw => ?_) hN
  rw [bmat_zero_mulVec] at hw
  rw [← smul_neg, ← hw, smul_smul, inv_mul_cancel₀ hθ, one_smul]

/-- **C12** one iteration of the complete model is an L-BFGS iteration when no bound interferes — `subspaceMin ∘ cauchy` on the
memory snapshot, as the driver chains them (`xbarModel`), under the hypotheses of C01 `complete_iteration_descent_curv`: if the
Cauchy point is strictly inside the box and the quasi-Newton point lies in the box, the line search is aimed at that point. -/
theorem complete_iteration_is_lbfgs (lb ub : Vec K) (e : K) (x g : Vec K) (X G : List (Vec K))
    (hX : X.length > 1) (hXG : X.length = G.length) (hn : 0 < x.length)
    (hS : ∀ j, j < (diffs X).length → ((diffs X).getD j []).length = x.length)
    (hY : ∀ j, j < (diffs X).length → ((diffs G).getD j []).length = x.length)
    (hcurv : ∀ j, j < (diffs X).length → vec x.length ((diffs X).getD j []) ≠ 0 ∧
      0 < vec x.length ((diffs X).getD j []) ⬝ᵥ vec x.length ((diffs G).getD j []))
    (hθ : 0 < thetaOf X G) (box : InBoxF lb ub x)
    (floor : ∀ dd : Fin x.length → K, dd ≠ 0 →
      (∀ r, dd r = 0 ∨ dd r = vec x.length (cauchyD0 (breakpoints x (fitTo x g) lb ub) (fitTo x g)) r) →
      e * f2orgOf (kernelInput x g lb ub (some (X, G)) e) ≤
        dd ⬝ᵥ (C10.bfgsChain ((thetaOf X G) • (1 : Matrix (Fin x.length) (Fin x.length) K))
          (pairsOf x.length (diffs X) (diffs G)) *ᵥ dd))
    (hint : StrictIn lb ub (cauchy (kernelInput x g lb ub (some (X, G)) e)).1)
    (hN : ∀ r : Fin x.length,
      vec x.length lb r ≤ (vec x.length x - C18.twoLoop ((thetaOf X G)⁻¹ • (1 : Matrix (Fin x.length) (Fin x.length) K))
        (pairsOf x.length (diffs X) (diffs G)) (vec x.length (fitTo x g))) r ∧
      (vec x.length x - C18.twoLoop ((thetaOf X G)⁻¹ • (1 : Matrix (Fin x.length) (Fin x.length) K))
        (pairsOf x.length (diffs X) (diffs G)) (vec x.length (fitTo x g))) r ≤ vec x.length ub r) :
    vec x.length (xbarModel lb ub e x g (some (X, G))) =
      vec x.length x - C18.twoLoop ((thetaOf X G)⁻¹ • (1 : Matrix (Fin x.length) (Fin x.length) K))
        (pairsOf x.length (diffs X) (diffs G)) (vec x.length (fitTo x g)) := by
  obtain ⟨Mm, ctx, hB⟩ := kernel_ctx x.length lb ub e x g X G rfl hX hXG hn hS hY hcurv hθ box floor
  have hi := kernelInput_some lb ub e x g X G hX
  have hp := pairsOf_curv x.length (diffs X) (diffs G) (by rw [diffs_length, diffs_length, hXG]) hcurv
  unfold xbarModel
  rw [hi] at ctx hB hint ⊢
  exact full_step_point _ x.length _ Mm ctx.spec hn ctx.hxc hint _
    (fun w hw => BfgsInverse.newton_eq_two_loop (thetaOf X G) hθ _ hp _ w ((congrArg (· *ᵥ w) hB).symm.trans hw)) hN

/-- **C12** … with hypotheses on the data only: the same, with "the Cauchy point is strictly inside the box" replaced by a condition
on the inputs: the segment from `x` to a little beyond the unconstrained Cauchy step `x − t* g`, `t* = gᵀg / gᵀBg` (`B` the BFGS matrix
of the stored pairs), lies in the box, strictly at `t*` (C08 `cauchy_unconstrained_step`: the Cauchy point is then `x − t* g`). -/
theorem complete_iteration_is_lbfgs_data (lb ub : Vec K) (e : K) (x g : Vec K) (X G : List (Vec K))
    (hX : X.length > 1) (hXG : X.length = G.length) (hn : 0 < x.length)
    (hS : ∀ j, j < (diffs X).length → ((diffs X).getD j []).length = x.length)
    (hY : ∀ j, j < (diffs X).length → ((diffs G).getD j []).length = x.length)
    (hcurv : ∀ j, j < (diffs X).length → vec x.length ((diffs X).getD j []) ≠ 0 ∧
      0 < vec x.length ((diffs X).getD j []) ⬝ᵥ vec x.length ((diffs G).getD j []))
    (hθ : 0 < thetaOf X G) (box : InBoxF lb ub x)
    (floor : ∀ dd : Fin x.length → K, dd ≠ 0 →
      (∀ r, dd r = 0 ∨ dd r = vec x.length (cauchyD0 (breakpoints x (fitTo x g) lb ub) (fitTo x g)) r) →
      e * f2orgOf (kernelInput x g lb ub (some (X, G)) e) ≤
        dd ⬝ᵥ (C10.bfgsChain ((thetaOf X G) • (1 : Matrix (Fin x.length) (Fin x.length) K))
          (pairsOf x.length (diffs X) (diffs G)) *ᵥ dd))
    (hG : vec x.length (fitTo x g) ≠ 0) (T : K)
    (hT : (vec x.length (fitTo x g) ⬝ᵥ vec x.length (fitTo x g)) /
        (vec x.length (fitTo x g) ⬝ᵥ (C10.bfgsChain ((thetaOf X G) • (1 : Matrix (Fin x.length) (Fin x.length) K))
          (pairsOf x.length (diffs X) (diffs G)) *ᵥ vec x.length (fitTo x g))) < T)
    (hTbox : InBoxF lb ub (vsub x (smul T (fitTo x g))))
    (hstrict : StrictIn lb ub (vsub x (smul ((vec x.length (fitTo x g) ⬝ᵥ vec x.length (fitTo x g)) /
        (vec x.length (fitTo x g) ⬝ᵥ (C10.bfgsChain ((thetaOf X G) • (1 : Matrix (Fin x.length) (Fin x.length) K))
          (pairsOf x.length (diffs X) (diffs G)) *ᵥ vec x.length (fitTo x g)))) (fitTo x g))))
    (hN : ∀ r : Fin x.length,
      vec x.length lb r ≤ (vec x.length x - C18.twoLoop ((thetaOf X G)⁻¹ • (1 : Matrix (Fin x.length) (Fin x.length) K))
        (pairsOf x.length (diffs X) (diffs G)) (vec x.length (fitTo x g))) r ∧
      (vec x.length x - C18.twoLoop ((thetaOf X G)⁻¹ • (1 : Matrix (Fin x.length) (Fin x.length) K))
        (pairsOf x.length (diffs X) (diffs G)) (vec x.length (fitTo x g))) r ≤ vec x.length ub r) :
    vec x.length (xbarModel lb ub e x g (some (X, G))) =
      vec x.length x - C18.twoLoop ((thetaOf X G)⁻¹ • (1 : Matrix (Fin x.length) (Fin x.length) K))
        (pairsOf x.length (diffs X) (diffs G)) (vec x.length (fitTo x g)) := by
  obtain ⟨Mm, ctx, hB⟩ := kernel_ctx x.length lb ub e x g X G rfl hX hXG hn hS hY hcurv hθ box floor
  have hi := kernelInput_some lb ub e x g X G hX
  have hstep := C08.cauchy_unconstrained_step (kernelInput x g lb ub (some (X, G)) e) x.length _ Mm ctx.hk ctx.min
    (hi ▸ hG) T (hB ▸ hi ▸ hT) (hi ▸ hTbox)
  apply complete_iteration_is_lbfgs lb ub e x g X G hX hXG hn hS hY hcurv hθ box floor _ hN
  rw [hstep, hB, hi]
  exact hstrict

end Lbfgsb.C12

/-! ### Non-vacuity (ℚ): the instance of C10Kernel (one pair `s = (1, 0)`, `y = (2, 1)`, `θ = 1`, so `B = [[2, 1], [1, 3/2]]`),
`x = 0`, `g = (1, 1)`, box `[−10, 10]²`, and `x_c = (−¼, −¼)` with its `c = Wᵀ(x_c − x)`: a point strictly inside the box, NOT the
Cauchy point of this input (`cauchy` returns `(−4/11, −4/11)`) — `newton_point_is_two_loop` does not ask for more. The quasi-Newton
point is `−B⁻¹g = (−¼, −½)`: the model returns it (kernel evaluation) and the theorem applies (its hypotheses hold of this instance). -/
namespace Lbfgsb.C12
open Lbfgsb Matrix CompactKernel Lbfgsb.FullNewton Lbfgsb.C10

def exN : SubIn ℚ :=
  { x := [0, 0], g := [1, 1], lb := [-10, -10], ub := [10, 10], theta := 1, W := buildW 2 1 exS exY,
    Minv := buildMinv 1 exS exY, useFactor := true, epsFsec := 0, xc := [-1 / 4, -1 / 4], c := [-3 / 4, -1 / 4] }

example : subspaceMin exN = [-1 / 4, -1 / 2] := by decide +kernel

theorem ex_two_loop : C18.twoLoop ((1 : ℚ)⁻¹ • (1 : Matrix (Fin 2) (Fin 2) ℚ)) (pairsOf 2 exS exY) (vec 2 [1, 1]) =
    vec 2 [1 / 4, 1 / 2] := by decide +kernel

theorem ex_W : buildW 2 (1 : ℚ) exS exY = [[2, 1], [1, 0]] := by decide +kernel

example : vec 2 (subspaceMin exN) = vec 2 [-1 / 4, -1 / 2] := by
  have hint : StrictIn exN.lb exN.ub exN.xc := by
    simp only [exN, StrictIn]
    decide +kernel
  rw [newton_point_is_two_loop exN 2 exS exY (by norm_num) rfl rfl one_pos rfl ex_curv.1 ex_curv.2.1 ex_curv.2.2
    exMm ex_hM rfl rfl rfl rfl rfl (by decide +kernel) hint (by decide +kernel)]
  exact (congrArg (vec 2 exN.x - ·) ex_two_loop).trans (by decide +kernel)

end Lbfgsb.C12
