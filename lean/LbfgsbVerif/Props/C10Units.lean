/-
  C10 — the BFGS matrix in other units. With the objective multiplied by `a` and the variables by `b` (`a, b ≠ 0`) a pair `(s, y)`
  becomes `(b s, (a/b) y)` and `θ = yᵀy/sᵀy` becomes `(a/b²) θ`; the dense BFGS matrix of the rescaled pairs from the rescaled `θ I`
  is `(a/b²)` times the original: the relation `B' = (a/b²) B` that the unit theorems of C08 and C09 ask of the two models.
-/
import LbfgsbVerif.Props.C10

namespace Lbfgsb.C10
open Matrix
variable {n : Type} [Fintype n] [DecidableEq n]
variable {K : Type} [Field K]

/-- the gradient difference scales by `c β`, as `y = B s` does -/
theorem bfgs_smul (c β : K) (hc : c ≠ 0) (hβ : β ≠ 0) (B : Matrix n n K) (s y : n → K) :
    bfgs (c • B) (β • s) ((c * β) • y) = c • bfgs B s y := by
  have e : (c • B) *ᵥ (β • s) = (c * β) • (B *ᵥ s) := by
    rw [smul_mulVec, mulVec_smul, smul_smul]
  unfold bfgs
  rw [e, smul_dotProduct, dotProduct_smul, smul_dotProduct, dotProduct_smul, smul_vecMulVec, vecMulVec_smul, smul_vecMulVec,
    vecMulVec_smul, smul_add, smul_sub, smul_smul, smul_smul, smul_smul, smul_smul, smul_smul, smul_smul]
  have k : ∀ t : K, 1 / ((β * (c * β)) • t) * (c * β) * (c * β) = c * (1 / t) := by
    intro t
    simp only [smul_eq_mul]
    field_simp
  rw [k, k, smul_smul, smul_smul]

variable [LinearOrder K] [IsStrictOrderedRing K]

theorem bfgs_units (a b : K) (ha : a ≠ 0) (hb : b ≠ 0) (B : Matrix n n K) (s y : n → K) :
    bfgs ((a / (b * b)) • B) (b • s) ((a / b) • y) = (a / (b * b)) • bfgs B s y := by
  have h := bfgs_smul (a / (b * b)) b (div_ne_zero ha (mul_ne_zero hb hb)) hb B s y
  rwa [div_mul_eq_mul_div, mul_div_mul_right _ _ hb] at h

theorem bfgsChain_units (a b : K) (ha : a ≠ 0) (hb : b ≠ 0) (B : Matrix n n K) (ps : List ((n → K) × (n → K))) :
    bfgsChain ((a / (b * b)) • B) (ps.map fun p => (b • p.1, (a / b) • p.2)) = (a / (b * b)) • bfgsChain B ps := by
  induction ps generalizing B with
  | nil => rfl
  | cons p ps ih =>
    simp only [List.map_cons, bfgsChain]
    rw [bfgs_units a b ha hb, ih]

theorem bfgsChain_theta_units (a b θ : K) (ha : a ≠ 0) (hb : b ≠ 0) (ps : List ((n → K) × (n → K))) :
    bfgsChain ((a / (b * b) * θ) • (1 : Matrix n n K)) (ps.map fun p => (b • p.1, (a / b) • p.2)) =
      (a / (b * b)) • bfgsChain (θ • (1 : Matrix n n K)) ps := by
  rw [← bfgsChain_units a b ha hb, smul_smul]

end Lbfgsb.C10
