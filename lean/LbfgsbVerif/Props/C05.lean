/-
  C05 — result coherence: `fun` and `jac` belong to `x`; counters equal the calls made.

  Level U + the IEEE-exact law `a * 1 = a` (explicit hypothesis `hmul1`). Values are *terms*:
  "bit for bit the value the user's function produces at the returned x times the scaling
  factor" is the statement `r.f = v * scale` with `u.F r.x = .ok v`.

  Excluded by hypothesis (`CkOk`): a checkpoint together with a gradient scaler — the recorded
  finding K1 (values scaled twice). An update function (objective redefined on the fly) is
  outside this property (`hasUpdate = false`): C13 covers it.
-/
import LbfgsbVerif.Proofs.C05
import Mathlib.Data.Int.Order.Basic

namespace Lbfgsb.C05
variable {α ε δ : Type}
variable [LinearOrder α] [Add α] [Sub α] [Mul α] [Div α] [Neg α] [OfNat α 0] [OfNat α 1]
  [FloatLike α]

/-- the run did not return at once on the target: then `prepare` has run, so at least one
gradient has been computed (or inherited from the checkpoint); the loop may still make no pass -/
def Iterated (u : User α ε) (c : Cfg α) : Prop :=
  ∃ i, initEval u c = .ok i ∧ targetReached (i.f0 / i.sf.scale) i.ftarget = false

theorem final_inv (u : User α ε) (o : Oracles α δ) (c : Cfg α) (hU : c.hasUpdate = false)
    (hmul1 : ∀ a : α, a * 1 = a) (hck : CkOk u c) (hit : Iterated u c)
    (r : Result α) (s : St α) (h : minimize u o c = .ok (r, s)) :
    Inv5 u c s.sf.scale (cnt0 c).1 (cnt0 c).2 s ∧ r = s.result := by
  obtain ⟨i0, hi0, ht0⟩ := hit
  rcases minimize_inv (I := fun t => Inv5 u c t.sf.scale (cnt0 c).1 (cnt0 c).2 t)
    (fun i s0 hi h0 =>
      prepare_inv5 hU hmul1 hck (initEval_sum hi) (initEval_init5 hi) h0)
    (fun t t' flow i5 _ hb =>
      have i5' := iterBody_inv5 hU i5 hb
      i5'.scale_eq ▸ i5') h with
    ⟨i, hi, ht, -⟩ | ⟨s1, t, su, w, i1, rfl, rfl⟩
  · obtain rfl := Except.ok.inj (hi0.symm.trans hi)
    simp [ht0] at ht
  · exact ⟨{ i1 with }, rfl⟩

/-- **C05 (1) — result coherence.** `fun` is the user's objective at the returned `x` times
the scaling factor, and `jac` the gradient at the returned `x` times the scaling factor (the
user's gradient; for differencing modes the finite-difference gradient at `x`). -/
theorem result_coherent (u : User α ε) (o : Oracles α δ) (c : Cfg α) (hU : c.hasUpdate = false)
    (hmul1 : ∀ a : α, a * 1 = a) (hck : CkOk u c) (hit : Iterated u c)
    (r : Result α) (s : St α) (h : minimize u o c = .ok (r, s)) :
    (∃ v, u.F r.x = .ok v ∧ r.f = v * s.sf.scale) ∧
    (∃ g0, gradSpec u.toSFUser c.lb c.ub c.mode r.x = .ok g0 ∧ r.jac = vscale g0 s.sf.scale) := by
  obtain ⟨inv, hr⟩ := final_inv u o c hU hmul1 hck hit r s h
  subst hr
  exact inv.at_x

/-- **C05 (2)** the same holds for every state passed to the callback. -/
theorem callback_coherent (u : User α ε) (o : Oracles α δ) (c : Cfg α) (hU : c.hasUpdate = false)
    (hmul1 : ∀ a : α, a * 1 = a) (hck : CkOk u c) (hit : Iterated u c)
    (r : Result α) (s : St α) (h : minimize u o c = .ok (r, s)) :
    ∀ cb ∈ s.cbStates,
      (∃ v, u.F cb.x = .ok v ∧ cb.f = v * s.sf.scale) ∧
      (∃ g0, gradSpec u.toSFUser c.lb c.ub c.mode cb.x = .ok g0 ∧ cb.jac = vscale g0 s.sf.scale) :=
  (final_inv u o c hU hmul1 hck hit r s h).1.cbs

/-- **C05 (3) — counters equal calls.** `nfev` is the number of objective calls in the log
(stencil evaluations included) plus the checkpoint's count, and with a callable gradient
`njev` the number of gradient calls plus the checkpoint's count. -/
theorem counters_eq_log (u : User α ε) (o : Oracles α δ) (c : Cfg α) (hU : c.hasUpdate = false)
    (hmul1 : ∀ a : α, a * 1 = a) (hck : CkOk u c) (hit : Iterated u c)
    (r : Result α) (s : St α) (h : minimize u o c = .ok (r, s)) :
    r.nfev = (cnt0 c).1 + nF s.sf.log ∧
    (c.mode = .callable → r.njev = (cnt0 c).2 + nG s.sf.log) := by
  obtain ⟨inv, hr⟩ := final_inv u o c hU hmul1 hck hit r s h
  subst hr
  exact ⟨inv.counted.1, fun hm => inv.counted.2 (inv.mode_eq.trans hm)⟩

/-- **C05 (4) — chains of restarts.** The result of a coherent unscaled run is an acceptable
checkpoint for the next leg (same problem, no scaler). The statement is about one leg: it gives
`CkOk` for the next configuration, the hypothesis the C05 results ask of a restart. -/
theorem result_is_ok_checkpoint (u : User α ε) (o : Oracles α δ) (c : Cfg α)
    (hU : c.hasUpdate = false)
    (hmul1 : ∀ a : α, a * 1 = a) (hck : CkOk u c) (hit : Iterated u c)
    (r : Result α) (s : St α) (h : minimize u o c = .ok (r, s)) (hsc : s.sf.scale = 1)
    (c' : Cfg α) (hc' : c'.checkpoint = some r) (hx : r.x = clip c'.x0 c'.lb c'.ub)
    (hb : c'.lb = c.lb ∧ c'.ub = c.ub ∧ c'.mode = c.mode) (hS' : c'.hasScaler = false) :
    CkOk u c' := by
  intro ck hck'
  rw [hc'] at hck'
  injection hck' with hck'
  subst hck'
  have := result_coherent u o c hU hmul1 hck hit r s h
  rw [hsc] at this
  refine ⟨hS', hx, ?_⟩
  unfold CohAt
  rw [hb.1, hb.2.1, hb.2.2]
  exact this

instance : FloatLike ℤ := ⟨id, fun _ => true⟩

def uZ : User ℤ String where
  F x := .ok (dot x x)
  Gr x := .ok (smul 2 x)
  fdPts _ _ := []
  fdComb _ _ _ := []
  callback _ := .ok false
  update i := .ok ⟨i.f0, i.f0Old, i.grad, i.G⟩
  scaler _ _ := .ok 3
  ftargetFn _ := .ok (-5)
  gtolFn _ := .ok 0

def oZ : Oracles ℤ Nat where
  xbar x _ _ := x.map (· - 1)
  dcNew _ _ _ _ _ _ := 0
  dcIter n stp _ _ _ := if n = 0 then (1, stp, .fg) else (n + 1, stp, .conv)

def cZ : Cfg ℤ :=
  { x0 := [3, 2], lb := [-10, -10], ub := [10, 10], mode := .callable, maxcor := 3, maxiter := 2,
    maxfun := 20, maxls := 4, ftol := 0, gtol := .const 0, ftarget := none, maxStep := 100,
    ftolLS := 0, gtolLS := 1, xtolLS := 0, epsSY := 0, hasCallback := true, hasUpdate := false,
    hasScaler := true, checkpoint := none }

theorem iterated_uZ : Iterated uZ cZ := ⟨_, rfl, by decide⟩
example : Iterated uZ cZ := iterated_uZ
example : CkOk uZ cZ := .of_none rfl
example : ∀ a : ℤ, a * 1 = a := Int.mul_one

/-- a scaled run (factor 3): two iterations, `fun = 3·F(x)`, `jac = 3·∇F(x)`, three objective
and three gradient calls -/
example : ∃ r s, minimize uZ oZ cZ = .ok (r, s) ∧ r.x = [1, 0] ∧ r.f = 3 ∧ r.jac = [6, 0] ∧
    r.nfev = 3 ∧ r.njev = 3 :=
  exists_ok_of_decide (by decide +kernel)

end Lbfgsb.C05
