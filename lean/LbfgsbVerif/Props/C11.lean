/-
  C11 — line-search steps are feasible, within budget and strictly downhill.

  `ls_points_in_box`, `ls_evals_le_cap`, `ls_result_downhill` hold for any linear order, uninterpreted arithmetic and
  an arbitrary stepper oracle (level U); `maxStep_feasible`, `ls_trials_on_ray`, `wolfe_gives_curvature` are facts of an
  ordered field (level F). The rest takes the model of SciPy's DCSRCH (Model/Dcsrch.lean) as the stepper, still at level
  U: its steps stay in `[0, stpmax]`, and it reports convergence only under the strong Wolfe conditions; `ls_evals_on_ray`
  adds exact arithmetic. That the model is SciPy's stepper is decided by the correspondence check, bit for bit on the
  calls recorded in real line searches (harness/props/c11.py).
-/
import LbfgsbVerif.Proofs.C02
import LbfgsbVerif.Proofs.C11
import LbfgsbVerif.Props.C03
import LbfgsbVerif.Proofs.LsRange
import LbfgsbVerif.Model.Kernels

namespace Lbfgsb.C11

section U
variable {α ε δ : Type}
variable [LinearOrder α] [Add α] [Sub α] [Mul α] [Div α] [Neg α] [OfNat α 0] [OfNat α 1]
  [FloatLike α]

/-- **C11** with a callable gradient every point the line search hands to the user's
objective or gradient is a clipped trial point, hence inside the box. -/
theorem ls_points_in_box (u : User α ε) (o : Oracles α δ) (c : Cfg α) (hb : BoxOk c.lb c.ub)
    (x0 : Vec α) (f0 : α) (g0 d : Vec α) (nit : Nat) (sf sf' : SF α) (maxIter : Nat)
    (olog olog' : List (OReq α)) (stp? : Option α) (hc : Coh u.toSFUser sf)
    (hm : sf.mode = .callable) (hx : x0.length = c.lb.length) (hd : d.length = x0.length)
    (h : lineSearch u o c x0 f0 g0 d nit sf maxIter olog = .ok (sf', stp?, olog')) :
    ∃ new, sf'.log = sf.log ++ new ∧ ∀ call ∈ new, InBox c.lb c.ub call.arg := by
  obtain ⟨new, hnew, hall⟩ := (lineSearch_sum hc h).log
  refine ⟨new, hnew, ?_⟩
  intro call hcall
  obtain ⟨stp, hev⟩ := hall call hcall
  rcases hev.2 with h1 | ⟨h2, -⟩
  · rw [h1]
    exact trial_inBox hb x0 d stp hx hd
  · rw [hm] at h2
    cases h2

/-- **C11** at most `maxIter` objective evaluations (callable gradient). -/
theorem ls_evals_le_cap (u : User α ε) (o : Oracles α δ) (c : Cfg α)
    (x0 : Vec α) (f0 : α) (g0 d : Vec α) (nit : Nat) (sf sf' : SF α) (maxIter : Nat)
    (olog olog' : List (OReq α)) (stp? : Option α) (hc : Coh u.toSFUser sf)
    (hm : sf.mode = .callable)
    (h : lineSearch u o c x0 f0 g0 d nit sf maxIter olog = .ok (sf', stp?, olog')) :
    sf'.nfev ≤ sf.nfev + maxIter :=
  (lineSearch_sum hc h).nfev_le hm

/-- **C11** the search returns `None` or a step whose objective value (the user's
function at the clipped trial point, times the scale) is strictly below the start. -/
theorem ls_result_downhill (u : User α ε) (o : Oracles α δ) (c : Cfg α)
    (x0 : Vec α) (f0 : α) (g0 d : Vec α) (nit : Nat) (sf sf' : SF α) (maxIter : Nat)
    (olog olog' : List (OReq α)) (stp : α) (hc : Coh u.toSFUser sf)
    (h : lineSearch u o c x0 f0 g0 d nit sf maxIter olog = .ok (sf', some stp, olog')) :
    ∃ v, u.F (trial x0 d c.lb c.ub stp) = .ok v ∧ v * sf.scale < f0 :=
  C03.ls_strict_decrease u o c x0 f0 g0 d nit sf sf' maxIter olog olog' stp hc h

end U

section F
variable {α : Type} [Field α] [LinearOrder α] [IsStrictOrderedRing α]
attribute [local instance] fieldFloatLike

/-- **C11** (exact arithmetic, finite bounds, later iterations) every step `a` with
`0 ≤ a ≤ max_allowed_steplength` keeps `x + a·d` in the box, and the bound never exceeds the
user's maximum step. -/
theorem maxStep_feasible (x d lb ub : Vec α) (maxStep : α) (nit : Nat) (hn : nit ≠ 0)
    (hx : InBoxF lb ub x) (hd : d.length = x.length) (a : α) (h0 : 0 ≤ a)
    (ha : a ≤ maxAllowedStep x d lb ub maxStep nit) :
    InBoxF lb ub (vadd x (smul a d)) ∧
      maxAllowedStep x d lb ub maxStep nit ≤ maxStep := by
  obtain ⟨h1, h2⟩ := maxAllowedStep_le x d lb ub maxStep nit hn
  exact ⟨feasible_of_le_cand x d lb ub hx hd a h0 (fun t ht => le_trans ha (h2 t ht)), h1⟩

/-- **C11** so in exact arithmetic the projection in the trial point is the identity for every
step the stepper may propose (`stpmax = max_allowed_steplength`, see `dcsrch_steps_in_range`): the
line search evaluates points of the ray `x + a·d` itself. -/
theorem ls_trials_on_ray (x d lb ub : Vec α) (maxStep : α) (nit : Nat) (hn : nit ≠ 0)
    (hx : InBoxF lb ub x) (hd : d.length = x.length) (a : α) (h0 : 0 ≤ a)
    (ha : a ≤ maxAllowedStep x d lb ub maxStep nit) :
    trial x d lb ub a = vadd x (smul a d) :=
  clip_of_inBox (inBoxF_iff_inBox.1 (maxStep_feasible x d lb ub maxStep nit hn hx hd a h0 ha).1)

/-- **C11** (exact arithmetic) why a converged line search yields a usable curvature pair: with
`φ'(0) = g₀ᵀd < 0`, the curvature condition `|φ'(stp)| ≤ gtol·(−φ'(0))`, `gtol < 1` and `stp > 0`,
the pair `s = stp·d`, `y = g₁ − g₀` has `sᵀy = stp·(φ'(stp) − φ'(0)) > 0`. -/
theorem wolfe_gives_curvature (dphi0 dphi1 gtol stp : α) (h0 : dphi0 < 0) (hg : gtol < 1) (hs : 0 < stp)
    (hw : |dphi1| ≤ gtol * (-dphi0)) : 0 < stp * (dphi1 - dphi0) := by
  have h : |dphi1| < -dphi0 := hw.trans_lt (mul_lt_of_lt_one_left (neg_pos.2 h0) hg)
  exact mul_pos hs (sub_pos.2 ((neg_neg dphi0).symm.trans_lt (abs_lt.1 h).1))

end F

section stepper
open Dcsrch
variable {α : Type} [LinearOrder α] [Add α] [Sub α] [Mul α] [Div α] [Neg α] [OfNat α 0] [OfNat α 1]
  [FloatLike α] [DcOps α]

/-- **C11** every step the Moré–Thuente stepper asks the line search to evaluate lies in
`[0, stpmax]`, whatever values `f`, `g` the caller reports: a theorem about the stepper model, not
an assumption on an oracle. -/
theorem dcsrch_steps_in_range (ftol gtol xtol stpmin stpmax stp0 : α) (answers : List (α × α)) :
    ∀ p ∈ trace (DC.new ftol gtol xtol stpmin stpmax) stp0 .start answers,
      p.2 = .fg → ¬ p.1 < 0 ∧ ¬ stpmax < p.1 :=
  trace_in_range stpmin stpmax answers _ stp0 .start (fun _ => ⟨rfl, rfl⟩) (fun h => absurd rfl h)

/-- **C11** with that stepper plugged into the driver's line search (`ConcreteStepper`), the
step the search returns lies in `[0, max_allowed_steplength]`. -/
theorem ls_result_in_range {ε : Type} (u : User α ε) (o : Oracles α (DC α)) (ho : ConcreteStepper o) (c : Cfg α)
    (x0 : Vec α) (f0 : α) (g0 d : Vec α) (nit : Nat) (sf sf' : SF α) (maxIter : Nat) (olog olog' : List (OReq α))
    (stp : α) (h : lineSearch u o c x0 f0 g0 d nit sf maxIter olog = .ok (sf', some stp, olog')) :
    ¬ stp < 0 ∧ ¬ maxAllowedStep x0 d c.lb c.ub c.maxStep nit < stp :=
  (lineSearch_range u o ho c x0 f0 g0 d nit sf sf' maxIter olog olog' (some stp) h).1 stp rfl

/-- **C11** … and every user evaluation the search makes is at the clipped trial point of a
step in that range. -/
theorem ls_steps_in_range {ε : Type} (u : User α ε) (o : Oracles α (DC α)) (ho : ConcreteStepper o) (c : Cfg α)
    (x0 : Vec α) (f0 : α) (g0 d : Vec α) (nit : Nat) (sf sf' : SF α) (maxIter : Nat) (olog olog' : List (OReq α))
    (stp? : Option α) (hc : Coh u.toSFUser sf)
    (h : lineSearch u o c x0 f0 g0 d nit sf maxIter olog = .ok (sf', stp?, olog')) :
    ∃ new, sf'.log = sf.log ++ new ∧ ∀ call ∈ new, ∃ stp,
      (¬ stp < 0 ∧ ¬ maxAllowedStep x0 d c.lb c.ub c.maxStep nit < stp) ∧
      EvalAt u.toSFUser sf.mode (trial x0 d c.lb c.ub stp) call :=
  (lineSearch_range u o ho c x0 f0 g0 d nit sf sf' maxIter olog olog' stp? h).2 hc

/-- **C11** the stepper reports convergence only at a step satisfying the strong Wolfe
conditions, in its own `≤` (`gtest = ftol·g₀` is set by the start call), and the step it returns
with that verdict is the one just evaluated. -/
theorem dcsrch_conv_is_wolfe (st : DC α) (stp f g : α) (task : Task) (ht : task ≠ .start)
    (h : (iterate st stp f g task).2.2 = .conv) :
    DcOps.le f (st.finit + stp * st.gtest) = true ∧ DcOps.le (fabs g) (st.gtol * (-st.ginit)) = true ∧
      (iterate st stp f g task).2.1 = stp := by
  obtain ⟨stage, hcase⟩ := iterate_cases st stp f g task ht
  rcases hcase with ⟨h1, h2, e⟩ | e | e
  · rw [e]
    exact ⟨h1, h2, rfl⟩
  · rw [e] at h
    cases h
  · rw [e] at h
    cases h

theorem concreteOracles_stepper (lb ub : Vec α) (e : α) : ConcreteStepper (concreteOracles lb ub e) :=
  ⟨fun _ _ _ _ _ _ => rfl, fun _ _ _ _ _ => rfl⟩

/-- **C11** the complete executable model (`concreteOracles`, Model/Kernels.lean — the one
`drv solve` runs natively against the package) has the DCSRCH model as its stepper, so
`ls_steps_in_range` holds in it with no hypothesis on the kernels or the stepper. -/
theorem concrete_ls_steps_in_range {ε : Type} (u : User α ε) (c : Cfg α) (e : α)
    (x0 : Vec α) (f0 : α) (g0 d : Vec α) (nit : Nat) (sf sf' : SF α) (maxIter : Nat) (olog olog' : List (OReq α))
    (stp? : Option α) (hc : Coh u.toSFUser sf)
    (h : lineSearch u (concreteOracles c.lb c.ub e) c x0 f0 g0 d nit sf maxIter olog = .ok (sf', stp?, olog')) :
    ∃ new, sf'.log = sf.log ++ new ∧ ∀ call ∈ new, ∃ stp,
      (¬ stp < 0 ∧ ¬ maxAllowedStep x0 d c.lb c.ub c.maxStep nit < stp) ∧
      EvalAt u.toSFUser sf.mode (trial x0 d c.lb c.ub stp) call :=
  ls_steps_in_range u _ (concreteOracles_stepper c.lb c.ub e) c x0 f0 g0 d nit sf sf' maxIter olog olog' stp? hc h

end stepper

section rayF
open Dcsrch
variable {α : Type} [Field α] [LinearOrder α] [IsStrictOrderedRing α] [DcOps α]
attribute [local instance] fieldFloatLike

/-- **C11** in exact arithmetic (iteration ≥ 1, feasible start), with the DCSRCH model as the
stepper, every evaluation of the line search is at a point `x + a·d` of the box with
`0 ≤ a ≤ maxstep`: no projection is ever active. -/
theorem ls_evals_on_ray {ε : Type} (u : User α ε) (o : Oracles α (DC α)) (ho : ConcreteStepper o) (c : Cfg α)
    (x0 : Vec α) (f0 : α) (g0 d : Vec α) (nit : Nat) (hn : nit ≠ 0) (sf sf' : SF α) (maxIter : Nat)
    (olog olog' : List (OReq α)) (stp? : Option α) (hc : Coh u.toSFUser sf)
    (hx : InBoxF c.lb c.ub x0) (hd : d.length = x0.length)
    (h : lineSearch u o c x0 f0 g0 d nit sf maxIter olog = .ok (sf', stp?, olog')) :
    ∃ new, sf'.log = sf.log ++ new ∧ ∀ call ∈ new, ∃ a, 0 ≤ a ∧ a ≤ c.maxStep ∧
      InBoxF c.lb c.ub (vadd x0 (smul a d)) ∧ EvalAt u.toSFUser sf.mode (vadd x0 (smul a d)) call := by
  obtain ⟨new, hnew, hall⟩ := ls_steps_in_range u o ho c x0 f0 g0 d nit sf sf' maxIter olog olog' stp? hc h
  refine ⟨new, hnew, fun call hcall => ?_⟩
  obtain ⟨a, ha, hev⟩ := hall call hcall
  obtain ⟨h0, h1⟩ := InR.le ha
  obtain ⟨hin, hle⟩ := maxStep_feasible x0 d c.lb c.ub c.maxStep nit hn hx hd a h0 h1
  refine ⟨a, h0, le_trans h1 hle, hin, ?_⟩
  rw [← ls_trials_on_ray x0 d c.lb c.ub c.maxStep nit hn hx hd a h0 h1]
  exact hev

end rayF

section nonvacuous
attribute [local instance] fieldFloatLike
-- the first coordinate hits its upper bound at step 1/2
example : maxAllowedStep ([0, 1] : Vec ℚ) [2, -1] [-1, -1] [1, 1] 100 3 = 1 / 2 := by
  decide +kernel

instance : Dcsrch.DcOps ℚ := ⟨fun x => x * x, fun a b => decide (a ≤ b), fun a b => decide (a = b)⟩
/-- phi(t) = (t − 5)², start step 1, stpmax 10, gtol 1/10: the stepper asks for t = 1 and, given
phi(1) = 16, phi'(1) = −8, extrapolates to the minimiser t = 5 -/
example : Dcsrch.trace (Dcsrch.DC.new (1/1000 : ℚ) (1/10) (1/10) 0 10) 1 .start [(25, -10), (16, -8)]
    = [(1, .fg), (5, .fg)] := by decide +kernel
/-- the hypothesis `ConcreteStepper` of `ls_result_in_range`, `ls_steps_in_range`, `ls_evals_on_ray` is met by an
oracle record that plugs the model of DCSRCH into the driver -/
example (xbar : Vec ℚ → Vec ℚ → Mats ℚ → Vec ℚ) :
    ConcreteStepper ({ xbar := xbar, dcNew := fun _ _ ftol gtol xtol stpmax => Dcsrch.DC.new ftol gtol xtol 0 stpmax,
                       dcIter := Dcsrch.iterate } : Oracles ℚ (Dcsrch.DC ℚ)) :=
  ⟨fun _ _ _ _ _ _ => rfl, fun _ _ _ _ _ => rfl⟩
end nonvacuous

end Lbfgsb.C11
