/-
  C08 — the Cauchy point when no bound is met: if the straight segment from `x` to a little beyond the unconstrained Cauchy step
  `x − t* g`, `t* = gᵀg / gᵀBg`, lies in the box, the routine's model returns exactly `x − t* g` (the minimiser of the quadratic model
  along the steepest-descent direction). Proof: on that segment the projection is the identity and `φ` is the parabola
  `−t gᵀg + ½ t² gᵀBg`; `t*` is therefore a first local minimiser of `φ`, and the first local minimiser is unique (Props/C08Unique).
-/
import LbfgsbVerif.Props.C08Unique

namespace Lbfgsb.C08
open Lbfgsb Matrix
variable {K : Type} [Field K] [LinearOrder K] [IsStrictOrderedRing K]

theorem between_of_ends {l u x g T τ : K} (h0 : 0 ≤ τ) (hT : τ ≤ T) (hx : l ≤ x ∧ x ≤ u)
    (hxT : l ≤ x - T * g ∧ x - T * g ≤ u) : l ≤ x - τ * g ∧ x - τ * g ≤ u := by
  have e : x - 0 * g = x := by rw [zero_mul, sub_zero]
  rcases le_total 0 g with hg | hg
  · exact ⟨hxT.1.trans (C01.ray_antitone hg x hT), ((C01.ray_antitone hg x h0).trans_eq e).trans hx.2⟩
  · exact ⟨hx.1.trans (e.ge.trans (C01.ray_monotone hg x h0)), (C01.ray_monotone hg x hT).trans hxT.2⟩

theorem inBoxF_segment (lb ub x g : Vec K) (T τ : K) (h0 : 0 ≤ τ) (hT : τ ≤ T) (hg : g.length = x.length)
    (hbox : InBoxF lb ub x) (hxT : InBoxF lb ub (vsub x (smul T g))) : InBoxF lb ub (vsub x (smul τ g)) := by
  fun_induction InBoxF lb ub x generalizing g with
  | case1 =>
    obtain rfl := List.eq_nil_of_length_eq_zero hg
    exact hbox
  | case2 l ls u us xi xs ih =>
    obtain ⟨gi, gs, rfl⟩ := List.exists_cons_of_length_eq_add_one hg
    exact ⟨between_of_ends h0 hT hbox.1 hxT.1, ih gs (Nat.succ.inj hg) hbox.2 hxT.2⟩
  | case3 => exact hbox.elim

theorem phi_free (i : CauchyIn K) (n k : Nat) (Mm : Matrix (Fin k) (Fin k) K) (hq : QCtx i n k Mm) (τ : K)
    (hτ : InBoxF i.lb i.ub (vsub i.x (smul τ i.g))) :
    phi i n k Mm τ = τ * (-(vec n i.g ⬝ᵥ vec n i.g)) +
      (1 / 2) * τ * τ * (vec n i.g ⬝ᵥ (bmat i.theta (wmat n k i.W) Mm *ᵥ vec n i.g)) := by
  unfold phi pathAt
  rw [clip_of_inBox (inBoxF_iff_inBox.1 hτ)]
  have hsl : (smul τ i.g).length = n := by rw [smul_length, hq.hg]
  -- the displacement is `−τ g = 0 + τ • (−g)`: the line through `0` along `−g`
  rw [vec_vsub n _ _ hq.hx hsl, vec_smul n _ _, sub_sub_cancel_left, ← smul_neg, ← zero_add (τ • -vec n i.g),
    qmodel_line _ _ (bmat_symm _ _ _ hq.hsym)]
  simp only [qmodel, dotProduct_zero, mulVec_zero, mul_zero, add_zero, dotProduct_neg, neg_dotProduct, mulVec_neg, neg_neg, zero_add]

/-- **C08 (no bound met: the unconstrained Cauchy step)** by uniqueness (`gcp_is_the_first_local_min`), not by following the loop -/
theorem cauchy_unconstrained_step (i : CauchyIn K) (n k : Nat) (Mm : Matrix (Fin k) (Fin k) K)
    (hk : kOf i = k) (hc : MinCtx i n k Mm (f2orgOf i)) (hG : vec n i.g ≠ 0) (T : K)
    (hT : (vec n i.g ⬝ᵥ vec n i.g) / (vec n i.g ⬝ᵥ (bmat i.theta (wmat n k i.W) Mm *ᵥ vec n i.g)) < T)
    (hTbox : InBoxF i.lb i.ub (vsub i.x (smul T i.g))) :
    (cauchy i).1 = vsub i.x (smul ((vec n i.g ⬝ᵥ vec n i.g) /
      (vec n i.g ⬝ᵥ (bmat i.theta (wmat n k i.W) Mm *ᵥ vec n i.g))) i.g) := by
  set a : K := vec n i.g ⬝ᵥ vec n i.g with ha
  set b : K := vec n i.g ⬝ᵥ (bmat i.theta (wmat n k i.W) Mm *ᵥ vec n i.g) with hb
  have hapos : 0 < a := by
    rw [ha]
    exact dot_self_pos _ hG
  have hbpos : 0 < b := hc.pd _ hG
  have hts : 0 < a / b := div_pos hapos hbpos
  have hgl := hc.hgx
  have seg : ∀ τ, 0 ≤ τ → τ ≤ T → InBoxF i.lb i.ub (vsub i.x (smul τ i.g)) :=
    fun τ h0 h1 => inBoxF_segment _ _ _ _ T τ h0 h1 hgl hc.box hTbox
  have hphi : ∀ τ, 0 ≤ τ → τ ≤ T → phi i n k Mm τ = τ * (-a) + (1 / 2) * τ * τ * b :=
    fun τ h0 h1 => phi_free i n k Mm hc.q τ (seg τ h0 h1)
  have hend : -a + a / b * b = 0 := by rw [div_mul_cancel₀ _ hbpos.ne', neg_add_cancel]
  have hflm : FirstLocalMin (phi i n k Mm) (a / b) := by
    refine ⟨hts.le, ?_, T - a / b, sub_pos.2 hT, ?_⟩
    · intro p q hp hpq hq
      rw [hphi p hp ((hpq.le.trans hq).trans hT.le), hphi q (hp.trans hpq.le) (hq.trans hT.le)]
      exact parab_dec (-a) b (a / b) p q hbpos hend.le hpq hq
    · intro τ h1 h2
      rw [hphi (a / b) hts.le hT.le, hphi τ (hts.le.trans h1) (h2.trans_eq (add_sub_cancel _ _))]
      exact parab_min (-a) b (a / b) τ hbpos.le hend.ge h1
  rw [gcp_is_the_first_local_min i n k Mm hk hc (a / b) hflm]
  exact clip_of_inBox (inBoxF_iff_inBox.1 (seg (a / b) (le_of_lt hts) (le_of_lt hT)))

end Lbfgsb.C08
