/-
  C20 — failures of user callables surface unchanged and leave nothing behind.

  * `error_is_users`: the model of `minimize_lbfgsb` returns an error only if a user callable
    returned exactly that error: nothing is replaced, wrapped or fabricated. (The model has no
    handler; the correspondence check replays fault-injected runs of the real code through it,
    so a handler introduced in the code shows up as a disagreement.)
  * `handlers_transparent` is about the *source*: the table of every `try/except` in `lbfgsb/*.py`
    is regenerated from /repo on every run by translate/handlers2lean.py. `reachesUser`: the body
    can reach a user callable (conservative name-based call graph, functions handed over as
    arguments included). `transparent`: each clause re-raises the caught exception object itself, or
    carries it in a private class that is unwrapped again (`raise c.args[0]`) by a handler around
    the only place the carrying function is handed to — so what reaches the caller is the user's
    exception object. The package needs one such pair, to carry a `StopIteration` of the objective
    across the differencing routine's internal iterator.
  * `no_residue`: a failed run leaves nothing behind because there is nowhere to leave it: the
    tables of every module-level / class-level mutable object, memoised function, function
    attribute and mutable default argument of the package (regenerated from the source on every run
    by translate/state2lean.py) contain no write — the only state is that of the per-call objects,
    which die with the failed call. That the identical fault-free call afterwards behaves as before
    is checked on the real code after every injected fault.
-/
import LbfgsbVerif.Proofs.C20
import LbfgsbVerif.Generated.Handlers
import LbfgsbVerif.Props.C14

namespace Lbfgsb.C20
variable {α ε δ : Type}
variable [Add α] [Sub α] [Mul α] [Div α] [Neg α] [LT α] [DecidableLT α]
  [OfNat α 0] [OfNat α 1] [FloatLike α]

/-- **C20 (1)** an error returned by the run is the error of a user callable, unchanged. -/
theorem error_is_users (u : User α ε) (o : Oracles α δ) (c : Cfg α) (e : ε)
    (h : minimize u o c = .error e) : UserErr u e := minimize_err e h

/-- **C20 (2)** every `try` of the package whose body can reach a user callable only re-raises the
caught exception object (directly, or through a private carrier that is unwrapped again). -/
theorem handlers_transparent :
    Generated.handlers.all (fun h => !h.reachesUser || h.transparent) = true := by decide

/-- a weaker reading of C20 (2), kept as a check of its own: none of them has a clause that ends
without raising. -/
theorem no_swallowing_handler_reaches_user :
    Generated.handlers.all (fun h => !(h.reachesUser && h.swallows)) = true := by decide

/-- **C20 (3)** nothing is left behind: the package has no state that outlives a call. -/
theorem no_residue :
    (∀ g ∈ Generated.State.globals, g.writes = []) ∧ (∀ d ∈ Generated.State.defaults, d.writes = []) :=
  ⟨C14.no_shared_mutable_state, fun d hd => (C14.no_mutable_default_written d hd).1⟩

-- Non-vacuity: a failing gradient at the second evaluation surfaces as that error.
instance : FloatLike Int := ⟨id, fun _ => true⟩

def uZ : User Int String where
  F x := .ok (dot x x)
  Gr x := if x = [3, 2] then .ok (smul 2 x) else .error "boom"
  fdPts _ _ := []
  fdComb _ _ _ := []
  callback _ := .ok false
  update i := .ok ⟨i.f0, i.f0Old, i.grad, i.G⟩
  scaler _ _ := .ok 1
  ftargetFn _ := .ok (-5)
  gtolFn _ := .ok 0

def oZ : Oracles Int Nat where
  xbar x _ _ := x.map (· - 1)
  dcNew _ _ _ _ _ _ := 0
  dcIter n stp _ _ _ := if n = 0 then (1, stp, .fg) else (n + 1, stp, .conv)

def cZ : Cfg Int :=
  { x0 := [3, 2], lb := [-10, -10], ub := [10, 10], mode := .callable, maxcor := 3, maxiter := 2,
    maxfun := 20, maxls := 4, ftol := 0, gtol := .const 0, ftarget := none, maxStep := 100,
    ftolLS := 0, gtolLS := 1, xtolLS := 0, epsSY := 0, hasCallback := true, hasUpdate := false,
    hasScaler := false, checkpoint := none }

example : minimize uZ oZ cZ = .error "boom" := rfl

end Lbfgsb.C20
