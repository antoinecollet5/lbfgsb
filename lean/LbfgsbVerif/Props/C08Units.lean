/-
  C08 — the Cauchy point does not depend on the units: objective multiplied by `a > 0`, variables by `b > 0` (`x' = b x`, `g' = (a/b) g`,
  `lb' = b lb`, `ub' = b ub`, models related by `B' = (a/b²) B`) give `x_cp' = b x_cp` (`cauchy_point_units`, by `cauchy_transport`).
  With an empty memory and `epsFsec = 0` the context of `gcp_first_local_min` holds by itself, so `cauchy_units_nofactor` holds for EVERY
  feasible input and every pair of positive factors: an absolute threshold in the breakpoints, in the tests on `d` and `f'` or in the
  step `−f'/f''` is excluded. The floor `eps_f_sec * f2_org` itself is outside both statements (the context assumes it inactive, the
  empty-memory case sets it to zero), so whether it is relative to `f2_org` or absolute (seeded change C08-h) is not decided here: that
  is caught by the harness, which runs the same comparison on the real routine, with power-of-two factors for which floating point is
  exact too.
-/
import LbfgsbVerif.Proofs.Units

namespace Lbfgsb.C08
open Lbfgsb Matrix Lbfgsb.Units
variable {K : Type} [Field K] [LinearOrder K] [IsStrictOrderedRing K]

/-- **C08 (units)** — the same problem in other units (`SameProblem a b`, models related by `B' = (a/b²) B`), both inputs in the
context of `gcp_first_local_min`: the Cauchy point of the second is `b` times that of the first -/
theorem cauchy_point_units (a b : K) (ha : 0 < a) (hb : 0 < b) (i i' : CauchyIn K) (n k k' : Nat)
    (Mm : Matrix (Fin k) (Fin k) K) (Mm' : Matrix (Fin k') (Fin k') K) (h : SameProblem a b i i')
    (hk : kOf i = k) (hc : MinCtx i n k Mm (f2orgOf i)) (hk' : kOf i' = k') (hc' : MinCtx i' n k' Mm' (f2orgOf i'))
    (hB : bmat i'.theta (wmat n k' i'.W) Mm' = (a / (b * b)) • bmat i.theta (wmat n k i.W) Mm) :
    (cauchy i').1 = smul b (cauchy i).1 :=
  cauchy_transport a (a / (b * b)) ha (factor_pos ha hb) (smul b) i i' n k k' Mm Mm' hk hc hk' hc'
    (pathAt_units a b hb i i' h) (phi_units a b hb i i' n k k' Mm Mm' h hB)

/-- **C08 (units, empty memory)** for every feasible input without pairs, every `θ > 0` and every pair of positive factors (no floor:
`epsFsec = 0`, as in exact arithmetic the Fortran safeguard has no role) -/
theorem cauchy_units_nofactor (a b : K) (ha : 0 < a) (hb : 0 < b) (i i' : CauchyIn K) (n : Nat)
    (h : SameProblem a b i i') (hθ : 0 < i.theta) (hθ' : i'.theta = a / (b * b) * i.theta)
    (hx : i.x.length = n) (hg : i.g.length = n) (hW : i.W.length = n) (hW' : i'.W.length = n)
    (hrow : ∀ r, r < n → (i.W.getD r []).length = kOf i) (hrow' : ∀ r, r < n → (i'.W.getD r []).length = kOf i')
    (huf : i.useFactor = false) (huf' : i'.useFactor = false) (he : i.epsFsec = 0) (he' : i'.epsFsec = 0)
    (hbox : InBoxF i.lb i.ub i.x) :
    (cauchy i').1 = smul b (cauchy i).1 := by
  have hθ'pos : 0 < i'.theta := by
    rw [hθ']
    exact mul_pos (factor_pos ha hb) hθ
  have hbox' : InBoxF i'.lb i'.ub i'.x := by
    rw [h.hlb, h.hub, h.hx]
    exact inBoxF_smul b hb _ _ _ hbox
  have hc := minCtx_nopairs_nofloor i n (kOf i) hx hg hW hrow huf hθ hbox he (f2orgOf i)
  have hc' := minCtx_nopairs_nofloor i' n (kOf i') (by rw [h.hx, smul_length, hx]) (by rw [h.hg, smul_length, hg]) hW' hrow' huf'
    hθ'pos hbox' he' (f2orgOf i')
  refine cauchy_point_units a b ha hb i i' n (kOf i) (kOf i') 0 0 h rfl hc rfl hc' ?_
  rw [bmat_zero, bmat_zero, hθ', smul_smul]

/-! ### Non-vacuity (ℚ): `x = 0`, `g = (−1, 2)`, box `[−1, 1]²`, `θ = 1`; the same problem with the objective multiplied by 3 and the
variables by 5 (neither a power of two: the field is exact): `g' = (−3/5, 6/5)`, box `[−5, 5]²`, `θ' = 3/25`. -/

def uI : CauchyIn ℚ :=
  { x := [0, 0], g := [-1, 2], lb := [-1, -1], ub := [1, 1], theta := 1, W := [[0], [0]], Minv := [[0]], useFactor := false, epsFsec := 0 }
def uI' : CauchyIn ℚ :=
  { x := [0, 0], g := [-3 / 5, 6 / 5], lb := [-5, -5], ub := [5, 5], theta := 3 / 25, W := [[0], [0]], Minv := [[0]], useFactor := false,
    epsFsec := 0 }

example : (cauchy uI').1 = smul 5 (cauchy uI).1 := by
  refine cauchy_units_nofactor 3 5 (by decide +kernel) (by decide +kernel) uI uI' 2
    ⟨by decide +kernel, by decide +kernel, by decide +kernel, by decide +kernel⟩ (by decide +kernel) (by decide +kernel)
    rfl rfl rfl rfl (by decide) (by decide) rfl rfl rfl rfl ?_
  simp only [uI, InBoxF]
  decide +kernel

end Lbfgsb.C08
