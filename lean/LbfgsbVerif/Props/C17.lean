/-
  C17 — a gradient scaler is equivalent to minimising the explicitly scaled objective.

  Level U (+ `a * 1 = a` where stated), for a fresh run (no checkpoint). The equivalence
  (`scaler_equivalence`) is proved by a simulation over the whole driver (Proofs/Scale.lean): the
  two runs go through states that are equal except inside the function wrapper, where the run with
  the scaler holds the unscaled values and the factor `s`, the other one the scaled values and the
  factor `1`. The same equality is checked bit for bit on pairs of real runs by the search.
-/
import LbfgsbVerif.Proofs.C17
import LbfgsbVerif.Props.C04
import LbfgsbVerif.Props.C05
import LbfgsbVerif.Proofs.Scale
import LbfgsbVerif.Proofs.BasicF
import LbfgsbVerif.Model.Utils

namespace Lbfgsb.C17
variable {α ε δ : Type}
variable [LinearOrder α] [Add α] [Sub α] [Mul α] [Div α] [Neg α] [OfNat α 0] [OfNat α 1]
  [FloatLike α]

theorem scaler_use (u : User α ε) (o : Oracles α δ) (c : Cfg α) (hck : c.checkpoint = none)
    (hit : C05.Iterated u c) (r : Result α) (s : St α) (h : minimize u o c = .ok (r, s)) :
    ∃ g0, gradSpec u.toSFUser c.lb c.ub c.mode (clip c.x0 c.lb c.ub) = .ok g0 ∧
      (c.hasScaler = true →
        u.scaler (clip c.x0 c.lb c.ub) (vscale g0 1) = .ok s.sf.scale ∧
        countK .scaler s.sf.log = 1) ∧
      (c.hasScaler = false → countK .scaler s.sf.log = 0) := by
  -- a scaler call is logged only by `applyScaler` in `prepare`: `initEval` before it logs
  -- evaluations and thresholds, the loop after it loop calls (and keeps the factor), `classify`
  -- nothing
  obtain ⟨i0, hi0, ht0⟩ := hit
  obtain ⟨i, hi, ⟨ht, -⟩ | ⟨-, s0, s1, hs0, hs1, rfl, rfl⟩⟩ := minimize_ok.1 h
  · cases Except.ok.inj (hi0.symm.trans hi)
    cases ht0.symm.trans ht
  cases Except.ok.inj (hi0.symm.trans hi)
  have is := initEval_sum hi0
  have i5 := initEval_init5 hi0
  have ps := prepare_sum is.coh hs0
  have ls := mainLoop_sum ps.inv (by omega) hs1
  obtain ⟨g0, hg0, hS, hN⟩ := prepare_scaler hck is.coh hs0
  rw [i5.lb_eq, i5.ub_eq, is.mode, i5.x_eq] at hg0
  rw [i5.x_eq, is.scale1, initEval_no_scaler hi0, Nat.zero_add] at hS
  rw [initEval_no_scaler hi0] at hN
  have hcl : (classify c s1).sf = s1.sf := by
    obtain ⟨t, su, w, e⟩ := classify_eq c s1
    rw [e]
  rw [hcl, no_scaler_of_loopCalls ls.log, ls.env.scale]
  exact ⟨g0, hg0, hS, fun hs => (hN hs).2⟩

/-- **C17 (1)** on a fresh run that enters the loop (`hit`) the scaler is invoked exactly once —
never when none is configured. -/
theorem scaler_called_once (u : User α ε) (o : Oracles α δ) (c : Cfg α) (hck : c.checkpoint = none)
    (hit : C05.Iterated u c) (r : Result α) (s : St α) (h : minimize u o c = .ok (r, s)) :
    countK .scaler s.sf.log = if c.hasScaler then 1 else 0 := by
  obtain ⟨g0, -, hS, hN⟩ := scaler_use u o c hck hit r s h
  split
  next hs => exact (hS hs).2
  next hs => exact hN (Bool.eq_false_iff.2 hs)

/-- **C17 (2)** the scaler sees the clipped start and its unscaled gradient, and the factor it
returns is the one the run uses (`a * 1 = a`: the gradient handed over is `g0` itself). -/
theorem scaler_sees_unscaled (u : User α ε) (o : Oracles α δ) (c : Cfg α)
    (hmul1 : ∀ a : α, a * 1 = a) (hck : c.checkpoint = none) (hS : c.hasScaler = true)
    (hit : C05.Iterated u c) (r : Result α) (s : St α) (h : minimize u o c = .ok (r, s)) :
    ∃ g0, gradSpec u.toSFUser c.lb c.ub c.mode (clip c.x0 c.lb c.ub) = .ok g0 ∧
      u.scaler (clip c.x0 c.lb c.ub) g0 = .ok s.sf.scale := by
  obtain ⟨g0, hg0, hS', -⟩ := scaler_use u o c hck hit r s h
  refine ⟨g0, hg0, ?_⟩
  have := (hS' hS).1
  rwa [vscale_one hmul1] at this

/-- **C17 (3)** the run with a scaler returning `s` is a run on `s·f`, `s·∇f`: the result and
every callback state carry `F(x)·s` and `∇F(x)·s`. -/
theorem scaled_values (u : User α ε) (o : Oracles α δ) (c : Cfg α) (hU : c.hasUpdate = false)
    (hmul1 : ∀ a : α, a * 1 = a) (hck : c.checkpoint = none) (hit : C05.Iterated u c)
    (r : Result α) (s : St α) (h : minimize u o c = .ok (r, s)) :
    CohAt u c s.sf.scale r.x r.f r.jac ∧ ∀ cb ∈ s.cbStates, CohAt u c s.sf.scale cb.x cb.f cb.jac :=
  ⟨C05.result_coherent u o c hU hmul1 (.of_none hck) hit r s h,
    C05.callback_coherent u o c hU hmul1 (.of_none hck) hit r s h⟩

/-- **C17 (4)** the target stop is tested on the unscaled value. -/
theorem target_on_unscaled (u : User α ε) (o : Oracles α δ) (c : Cfg α) (r : Result α) (s : St α)
    (h : minimize u o c = .ok (r, s)) (hm : r.msg = .target) :
    ∃ t, s.ftarget = some t ∧ ¬ t < r.f / s.sf.scale :=
  (C04.report_truthful u o c r s h).2.1 hm

/-- **C17 (5)** the run with a scaler returning `s` and the run WITHOUT scaler on the explicitly
scaled objective `s·f`, `s·∇f` return the same result: the same error, or equal `x`, `fun`, `jac`,
counters, iteration count, message, success flag and correction pairs (callable gradient, no target,
no redefinition; the laws used, `a·1 = a` and `¬ a < a`, are exact in IEEE arithmetic). -/
theorem scaler_equivalence (u : User α ε) (o : Oracles α δ) (c : Cfg α) (s : α)
    (hS : c.hasScaler = true) (hck : c.checkpoint = none) (hft : c.ftarget = none)
    (hm : c.mode = .callable) (hU : c.hasUpdate = false) (hsc : ∀ x g, u.scaler x g = .ok s)
    (hmul1 : ∀ a : α, a * 1 = a) :
    RelE (fun p q => p.1 = q.1) (minimize u o c)
      (minimize (scaledUser u s) o { c with hasScaler := false }) :=
  minimize_scaled (fun a => lt_irrefl a) u o c _ ⟨rfl, hS, hck, hft, hm, hU, hsc, hmul1⟩

section packaged
variable {K : Type} [Field K] [LinearOrder K] [IsStrictOrderedRing K]

theorem maxAbs_vsub_comm (a b : Vec K) : maxAbs (vsub a b) = maxAbs (vsub b a) := by
  unfold maxAbs
  generalize (0 : K) = acc
  induction a generalizing b acc with
  | nil => cases b <;> rfl
  | cons x xs ih =>
    cases b with
    | nil => rfl
    | cons y ys =>
      rw [vsub_cons, vsub_cons, List.foldl_cons, List.foldl_cons, fabs_eq, fabs_eq (y - x),
        abs_sub_comm]
      exact ih ys _

/-- **C17 (6)** the packaged scaler (`get_gradient_projection_unit_scaling`, Model/Utils.lean;
over an ordered field) returns a strictly positive factor — `1` at a stationary start,
the inverse of the projected-gradient norm otherwise: the scaled problem starts with a projected
gradient of unit size. -/
theorem unit_scaling_pos (x g lb ub : Vec K) :
    0 < unitScaling x g lb ub ∧
    unitScaling x g lb ub = (if projgr x g lb ub = 0 then 1 else 1 / projgr x g lb ub) := by
  have he : unitScaling x g lb ub = if projgr x g lb ub = 0 then 1 else 1 / projgr x g lb ub := by
    unfold unitScaling projgr
    rw [maxAbs_vsub_comm x]
    exact if_congr (feq_iff _ _) rfl rfl
  refine ⟨?_, he⟩
  rw [he]
  split
  next => exact one_pos
  next hne => exact one_div_pos.2 (lt_of_le_of_ne (maxAbs_nonneg _) (Ne.symm hne))

end packaged

-- Non-vacuity: the ℤ example of C05 (scaler returning 3) meets the hypotheses of
-- `scaler_equivalence`, and the two runs return the same result.
example : C05.cZ.hasScaler = true ∧ C05.cZ.checkpoint = none ∧ C05.cZ.ftarget = none ∧
    C05.cZ.mode = .callable ∧ C05.cZ.hasUpdate = false ∧ (∀ x g, C05.uZ.scaler x g = .ok 3) ∧
    (∀ a : ℤ, a * 1 = a) := ⟨rfl, rfl, rfl, rfl, rfl, fun _ _ => rfl, Int.mul_one⟩

example : ∃ r s r' s', minimize C05.uZ C05.oZ C05.cZ = .ok (r, s) ∧
    minimize (scaledUser C05.uZ 3) C05.oZ { C05.cZ with hasScaler := false } = .ok (r', s') ∧
    r.x = r'.x ∧ r.f = r'.f ∧ r.jac = r'.jac ∧ r.nfev = r'.nfev ∧ r.sk = r'.sk ∧ r.f = 3 :=
  exists_ok₂_of_decide (by decide +kernel)

end Lbfgsb.C17
