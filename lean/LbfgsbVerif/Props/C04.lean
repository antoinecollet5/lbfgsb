/-
  C04 — the termination report is truthful and the run budgets are respected.

  Level U: `α` is any linear order; `+ - * /`, `sqrt`, `isFinite` are arbitrary operations; the
  user's objective, gradient, callback, update function, scaler and threshold callables are
  arbitrary `Except`-valued functions; the kernels (`xbar`) and the DCSRCH stepper are arbitrary
  oracles. Every statement is about `minimize`, the model of `minimize_lbfgsb`, and holds for
  every configuration (`maxiter` from 0, `maxfun` from 1, any `maxls`, restarts from any
  checkpoint, ...). "No NaN" is the only thing the linear order encodes.
-/
import LbfgsbVerif.Proofs.C04
import Mathlib.Data.Int.Order.Basic

namespace Lbfgsb.C04
variable {α ε δ : Type}
variable [LinearOrder α] [Add α] [Sub α] [Mul α] [Div α] [Neg α] [OfNat α 0] [OfNat α 1]
  [FloatLike α]

/-- **C04 (1)** every run returns one of the documented termination reasons — the placeholders
`START` / `RESTART_FROM_LNSRCH` never survive. -/
theorem message_documented (u : User α ε) (o : Oracles α δ) (c : Cfg α) (r : Result α) (s : St α)
    (h : minimize u o c = .ok (r, s)) : r.msg.documented = true :=
  (minimize_sum h).documented

/-- the state the report talks about: `s` is the final driver state returned next to the
result, `s.gtol` / `s.ftarget` the thresholds after their one-shot evaluation. -/
theorem thresholds (u : User α ε) (o : Oracles α δ) (c : Cfg α) (r : Result α) (s : St α)
    (h : minimize u o c = .ok (r, s)) :
    ThreshVal u.gtolFn c.gtol s.gtol ∧
    (match c.ftarget with
      | none => s.ftarget = none
      | some t => ∃ a, s.ftarget = some a ∧ ThreshVal u.ftargetFn t a) :=
  ⟨(minimize_sum h).gtol, (minimize_sum h).ftarget⟩

/-- **C04 (2)** the reason is true of the returned state:
* a projected-gradient message implies `projgr(x, jac) ≤ gtol`,
* a target message implies `fun / scale ≤ ftarget`,
* an iteration-limit message implies `nit ≥ maxiter`,
* an evaluation-limit message implies `nfev ≥ maxfun`,
* a user-callback message implies the callback returned `True` on one of the states it was given. -/
theorem report_truthful (u : User α ε) (o : Oracles α δ) (c : Cfg α) (r : Result α) (s : St α)
    (h : minimize u o c = .ok (r, s)) :
    (r.msg = .pgtol → ¬ s.gtol < projgr r.x r.jac c.lb c.ub) ∧
    (r.msg = .target → ∃ t, s.ftarget = some t ∧ ¬ t < r.f / s.sf.scale) ∧
    (r.msg = .iterLimit → c.maxiter ≤ r.nit) ∧
    (r.msg = .evalLimit → c.maxfun ≤ r.nfev) ∧
    (r.msg = .userCallback → ∃ cb ∈ s.cbStates, u.callback cb = .ok true) := by
  have rs := minimize_sum h
  refine ⟨rs.pgtol, fun hm => ?_, rs.iterLimit, rs.evalLimit, rs.userCallback⟩
  have ht := rs.target hm
  cases hft : s.ftarget with
  | none => simp [targetReached, hft] at ht
  | some t => exact ⟨t, rfl, by simpa [targetReached, hft] using ht⟩

/-- **C04 (3)** `success` is `False` exactly for abnormal line-search termination. -/
theorem success_iff (u : User α ε) (o : Oracles α δ) (c : Cfg α) (r : Result α) (s : St α)
    (h : minimize u o c = .ok (r, s)) : r.success = false ↔ r.msg = .abnormal :=
  (minimize_sum h).success_iff

/-- **C04 (4)** `nit ≤ max(maxiter, nit at restart)`. -/
theorem nit_bound (u : User α ε) (o : Oracles α δ) (c : Cfg α) (r : Result α) (s : St α)
    (h : minimize u o c = .ok (r, s)) : r.nit ≤ max c.maxiter (nit0 c) :=
  (minimize_sum h).nit_le

/-- **C04 (5)** with a callable gradient `nfev ≤ max(maxfun, n0) + 1`, `n0` being 1 or the
checkpoint's count. -/
theorem nfev_bound (u : User α ε) (o : Oracles α δ) (c : Cfg α) (r : Result α) (s : St α)
    (hm : c.mode = .callable) (h : minimize u o c = .ok (r, s)) :
    r.nfev ≤ max c.maxfun (nfev0 c) + 1 :=
  (minimize_sum h).nfev_le hm

/-- **C04 (6)** callable `ftarget` / `gtol` are invoked exactly once (and never when they are
plain numbers): the final log holds exactly that many entries of each kind. -/
theorem criteria_called_once (u : User α ε) (o : Oracles α δ) (c : Cfg α) (r : Result α)
    (s : St α) (h : minimize u o c = .ok (r, s)) :
    countK .gtol s.sf.log = (if isCallableT c.gtol then 1 else 0) ∧
    countK .ftarget s.sf.log =
      (match c.ftarget with | some t => (if isCallableT t then 1 else 0) | none => 0) :=
  ⟨(minimize_sum h).n_gtol, (minimize_sum h).n_ftarget⟩

instance : FloatLike ℤ := ⟨id, fun _ => true⟩

/-- objective `x·x`, gradient `2x`, a callback that never stops, thresholds as callables -/
def uZ : User ℤ String where
  F x := .ok (dot x x)
  Gr x := .ok (smul 2 x)
  fdPts _ _ := []
  fdComb _ _ _ := []
  callback _ := .ok false
  update i := .ok ⟨i.f0, i.f0Old, i.grad, i.G⟩
  scaler _ _ := .ok 1
  ftargetFn _ := .ok (-5)
  gtolFn _ := .ok 0

/-- kernels: `xbar = 0`; stepper: propose the step 1, then report convergence -/
def oZ : Oracles ℤ Nat where
  xbar x _ _ := x.map fun _ => 0
  dcNew _ _ _ _ _ _ := 0
  dcIter n stp _ _ _ := if n = 0 then (1, stp, .fg) else (n + 1, stp, .conv)

def cZ : Cfg ℤ :=
  { x0 := [3, -4], lb := [-10, -10], ub := [10, 10], mode := .callable, maxcor := 3, maxiter := 5,
    maxfun := 20, maxls := 4, ftol := 0, gtol := .callable, ftarget := some .callable, maxStep := 100,
    ftolLS := 0, gtolLS := 1, xtolLS := 0, epsSY := 0, hasCallback := true, hasUpdate := false,
    hasScaler := false, checkpoint := none }

example : ∃ r s, minimize uZ oZ cZ = .ok (r, s) ∧ r.msg = .pgtol ∧ r.nit = 1 ∧ r.nfev = 2 ∧
    r.x = [0, 0] ∧ s.cbStates.length = 1 :=
  exists_ok_of_decide (by decide +kernel)

/-- a restart whose checkpoint has `nit = 7 > maxiter = 5` -/
def ckZ : Result ℤ :=
  { x := [3, -4], f := 25, jac := [6, -8], nfev := 9, njev := 9, nit := 7, status := 1,
    msg := .iterLimit, success := true, sk := [], yk := [] }

example : ∃ r s, minimize uZ oZ { cZ with checkpoint := some ckZ } = .ok (r, s) ∧
    r.msg = .iterLimit ∧ r.nit = 7 ∧ r.nfev = 9 :=
  exists_ok_of_decide (by decide +kernel)

end Lbfgsb.C04
