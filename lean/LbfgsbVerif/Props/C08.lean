/-
  C08 — the Cauchy point is the first local minimiser along the projected path. Here, level U (whatever the memory and the rounding),
  about the executable model `cauchy` (Model/Cauchy.lean): the breakpoints are processed in non-decreasing order (`none` = +∞ last), the
  processed indices are exactly those with `t > 0`, each once, and the returned point is in the box exactly (it is a `clip`, or `x`
  itself). The path and first-local-minimiser theorems (ordered field) are Props/C08Path.lean and Props/C08Min.lean; the floating-point
  agreement of the routine with this model is decided by the correspondence.
-/
import LbfgsbVerif.Proofs.Basic
import LbfgsbVerif.Proofs.CauchyStep
import Mathlib.Data.Int.Order.Basic

namespace Lbfgsb.C08
open Lbfgsb
variable {α : Type} [LinearOrder α] [Add α] [Sub α] [Mul α] [Div α] [Neg α] [OfNat α 0] [OfNat α 1]

theorem bpLe_some (x y : α) : bpLe (some x) (some y) = true ↔ x ≤ y := by
  rw [bpLe, Bool.not_eq_true', decide_eq_false_iff_not, not_lt]

theorem le_of_le_head (t : List (Option α)) (ib : Nat) (rest : List Nat)
    (hsort : ∀ j ∈ rest, bpLe (t.getD ib none) (t.getD j none) = true) (T : α)
    (hT : ∀ tcur, t.getD ib none = some tcur → T ≤ tcur) :
    ∀ j ∈ ib :: rest, ∀ v, t.getD j none = some v → T ≤ v := by
  intro j hj v hv
  rcases List.mem_cons.1 hj with rfl | hj
  · exact hT v hv
  · have hle := hsort j hj
    rw [hv] at hle
    cases hb : t.getD ib none with
    | none => exact nomatch hb ▸ hle
    | some tcur => exact le_trans (hT tcur hb) ((bpLe_some tcur v).1 (hb ▸ hle))

theorem bpLe_trans (a b c : Option α) (h1 : bpLe a b = true) (h2 : bpLe b c = true) :
    bpLe a c = true := by
  cases c with
  | none => cases a <;> rfl
  | some z =>
    cases b with
    | none => nomatch h2
    | some y =>
      cases a with
      | none => nomatch h1
      | some x => exact (bpLe_some x z).2 (le_trans ((bpLe_some x y).1 h1) ((bpLe_some y z).1 h2))

theorem bpLe_total (a b : Option α) : (bpLe a b || bpLe b a) = true := by
  cases a with
  | none => cases b <;> rfl
  | some x =>
    cases b with
    | none => rfl
    | some y =>
      rw [Bool.or_eq_true, bpLe_some, bpLe_some]
      exact le_total x y

/-- **C08** breakpoints are processed in non-decreasing order. -/
theorem order_sorted (t : List (Option α)) :
    (bpOrder t).Pairwise fun i j => bpLe (t.getD i none) (t.getD j none) = true := by
  unfold bpOrder
  exact List.pairwise_mergeSort (le := fun i j => bpLe (t.getD i none) (t.getD j none))
    (fun a b c => bpLe_trans _ _ _) (fun a b => bpLe_total _ _) _

/-- **C08** the processed indices are exactly the indices whose breakpoint is positive. -/
theorem order_positive (t : List (Option α)) (i : Nat) :
    i ∈ bpOrder t ↔ (i < t.length ∧ bpPos (t.getD i none) = true) := by
  unfold bpOrder
  -- the merge sort permutes the filter of `range t.length` by `bpPos`, and membership there is the right side
  rw [(List.mergeSort_perm _ _).mem_iff]
  simp [List.mem_filter]

theorem pos_of_mem_order {t : List (Option α)} {i : Nat} (hi : i ∈ bpOrder t) {v : α} (hv : t.getD i none = some v) :
    0 < v :=
  of_decide_eq_true (hv ▸ ((order_positive t i).1 hi).2 :)

/-- …each exactly once -/
theorem order_nodup (t : List (Option α)) : (bpOrder t).Nodup := by
  unfold bpOrder
  exact (List.mergeSort_perm _ _).nodup_iff.2 (List.nodup_range.sublist List.filter_sublist)

theorem breakpoints_length (x g lb ub : Vec α) (h1 : g.length = x.length) (h2 : lb.length = x.length)
    (h3 : ub.length = x.length) : (breakpoints x g lb ub).length = x.length := by
  induction x generalizing g lb ub with
  | nil => rfl
  | cons a as ih =>
    obtain ⟨b, bs, rfl⟩ := List.exists_cons_of_length_eq_add_one h1
    obtain ⟨l, ls, rfl⟩ := List.exists_cons_of_length_eq_add_one h2
    obtain ⟨u, us, rfl⟩ := List.exists_cons_of_length_eq_add_one h3
    exact congrArg Nat.succ (ih bs ls us (Nat.succ.inj h1) (Nat.succ.inj h2) (Nat.succ.inj h3))

theorem cauchyD0_length (t : List (Option α)) (g : Vec α) (h : t.length = g.length) :
    (cauchyD0 t g).length = g.length := by
  induction g generalizing t with
  | nil =>
    obtain rfl := List.eq_nil_of_length_eq_zero h
    rfl
  | cons b bs ih =>
    obtain ⟨a, as, rfl⟩ := List.exists_cons_of_length_eq_add_one h
    exact congrArg Nat.succ (ih as (Nat.succ.inj h))

theorem fold_lengths (i : CauchyIn α) (t : List (Option α)) (f2org : α) (order : List Nat)
    (s0 : CauchySt α) :
    (order.foldl (cauchyStep i t f2org) s0).xcp.length = s0.xcp.length ∧
    (order.foldl (cauchyStep i t f2org) s0).d.length = s0.d.length := by
  induction order generalizing s0 with
  | nil => exact ⟨rfl, rfl⟩
  | cons a as ih =>
    obtain ⟨h1, h2⟩ := ih (cauchyStep i t f2org s0 a)
    obtain ⟨h3, h4⟩ := cauchyStep_lengths i t f2org s0 a
    exact ⟨h1.trans h3, h2.trans h4⟩

/-- the one place where the `let` chain of `cauchy` is opened at level U (by `rfl`) -/
theorem cauchy_shape (i : CauchyIn α) : ∃ (f2org a : α) (s0 : CauchySt α) (c0 v : Vec α),
    s0.xcp = i.x ∧ s0.d = cauchyD0 (breakpoints i.x i.g i.lb i.ub) i.g ∧
    cauchy i = if (bpOrder (breakpoints i.x i.g i.lb i.ub)).isEmpty then (i.x, c0) else
      (clip (vadd ((bpOrder (breakpoints i.x i.g i.lb i.ub)).foldl
          (cauchyStep i (breakpoints i.x i.g i.lb i.ub) f2org) s0).xcp
        (smul a ((bpOrder (breakpoints i.x i.g i.lb i.ub)).foldl
          (cauchyStep i (breakpoints i.x i.g i.lb i.ub) f2org) s0).d)) i.lb i.ub, v) :=
  ⟨_, _, _, _, _, rfl, rfl, rfl⟩

/-- **C08** the returned point is in the box, exactly, for every memory and every rounding of the arithmetic. -/
theorem gcp_in_box (i : CauchyIn α) (hb : BoxOk i.lb i.ub) (hx : InBox i.lb i.ub i.x)
    (hg : i.g.length = i.x.length) : InBox i.lb i.ub (cauchy i).1 := by
  obtain ⟨hxl, hul⟩ := inBox_length hx
  obtain ⟨f2org, a, s0, c0, v, h1, h2, h⟩ := cauchy_shape i
  rw [h]
  split
  · exact hx
  · apply clip_inBox hb
    -- the loop keeps the lengths of the point and of the direction
    obtain ⟨e1, e2⟩ := fold_lengths i (breakpoints i.x i.g i.lb i.ub) f2org (bpOrder (breakpoints i.x i.g i.lb i.ub)) s0
    have hd : s0.d.length = i.x.length := by
      rw [h2, cauchyD0_length _ _ (by rw [breakpoints_length _ _ _ _ hg hxl hul, hg]), hg]
    rw [length_vadd_smul _ _ _ ((e2.trans hd).trans (e1.trans (h1 ▸ rfl)).symm), e1, h1, ← hxl]

/-! ### Non-vacuity (ℤ): the structural facts on a concrete list of breakpoints -/
example : (bpOrder ([some 3, some 0, none, some 1] : List (Option Int))).Nodup ∧
    (3 ∈ bpOrder ([some 3, some 0, none, some 1] : List (Option Int))) ∧
    (1 ∉ bpOrder ([some 3, some 0, none, some 1] : List (Option Int))) := by
  refine ⟨order_nodup _, (order_positive _ _).2 ⟨by decide, by decide⟩, fun h => ?_⟩
  exact absurd ((order_positive _ _).1 h).2 (by decide)

end Lbfgsb.C08
