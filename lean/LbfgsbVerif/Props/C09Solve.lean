/-
  C08 / C09 / C01 — the dense solves of the model are exact in exact arithmetic: the "exact solve" hypotheses of
  `gcp_first_local_min` (C08), `subspace_newton_point` (C09) and `complete_iteration_descent` (C01) are discharged.

  The model replaces the triangular factors of the source (`form_invMfactors`, `bmv`; `factorize_k` and `solve_triangular` in the subspace step) by one Gauss–Jordan
  elimination with partial pivoting (`gaussSolve`, Model/Compact.lean). Over any ordered field and whatever row the
  pivoting selects, when no pivot vanishes the vector returned is the solution of the system, and the pivots depend on the
  matrix only (Proofs/Gauss, GaussBridge). An injective matrix — in particular one with a left inverse — has no vanishing
  pivot, and with a positive definite model `B` the reduced matrix `N = M⁻¹ − (1/θ)·WᵀZZᵀW` is injective. So the kernels'
  theorems hold under sizes, `Mm·M⁻¹ = 1` and positive definiteness of `B` (or, computably, non-vanishing pivots:
  `SubCtxP`), with no assumption on any solve.
-/
import LbfgsbVerif.Proofs.GaussBridge
import LbfgsbVerif.Props.C01Descent

namespace Lbfgsb.C09
open Lbfgsb Matrix Lbfgsb.Gauss
variable {K : Type} [Field K] [LinearOrder K] [IsStrictOrderedRing K]

theorem gauss_solves (A : List (Vec K)) (b : Vec K) (k : Nat) (hb : b.length = k) (hA : A.length = k)
    (hrow : ∀ i, i < k → (A.getD i []).length = k) (hp : ∀ p ∈ pivotsOf A k, p ≠ 0) :
    (gaussSolve A b).length = k ∧ wmat k k A *ᵥ vec k (gaussSolve A b) = vec k b :=
  gaussSolve_mulVec A b k hb ⟨hA, hrow⟩ hp

theorem gauss_unique (A : List (Vec K)) (b : Vec K) (k : Nat) (hb : b.length = k) (hA : A.length = k)
    (hrow : ∀ i, i < k → (A.getD i []).length = k) (hp : ∀ p ∈ pivotsOf A k, p ≠ 0)
    (x : Fin k → K) (hx : wmat k k A *ᵥ x = vec k b) : x = vec k (gaussSolve A b) := by
  have hfun : (fun j : Fin k => if h : (j : Nat) < k then x ⟨j, h⟩ else 0) = x := by
    funext j
    exact dif_pos j.2
  funext r
  have := (gaussSolve_mulVec_iff A b k hb ⟨hA, hrow⟩ hp fun j => if h : j < k then x ⟨j, h⟩ else 0).1 (hfun.symm ▸ hx) r r.2
  rwa [dif_pos r.2] at this

/-- **C08** the hypothesis `QCtx.hmv` of `gcp_first_local_min`, as soon as `Mm` is a left inverse of the stored `M⁻¹` -/
theorem middle_product_exact (i : CauchyIn K) (k : Nat) (Mm : Matrix (Fin k) (Fin k) K) (uf : i.useFactor = true)
    (hA : i.Minv.length = k) (hrow : ∀ r, r < k → (i.Minv.getD r []).length = k)
    (hM : Mm * wmat k k i.Minv = 1) :
    ∀ v : List K, v.length = k → (i.mv v).length = k ∧ vec k (i.mv v) = Mm *ᵥ vec k v :=
  mv_of_pivots i k Mm uf hA hrow (pivots_of_left_inverse i.Minv k ⟨hA, hrow⟩ Mm hM) hM

theorem regular_pivots (A : List (Vec K)) (k : Nat) (hA : A.length = k)
    (hrow : ∀ i, i < k → (A.getD i []).length = k) (B : Matrix (Fin k) (Fin k) K) (hB : B * wmat k k A = 1) :
    ∀ p ∈ pivotsOf A k, p ≠ 0 :=
  pivots_of_left_inverse A k ⟨hA, hrow⟩ B hB

theorem qctx_of_pivots (i : CauchyIn K) (n k : Nat) (Mm : Matrix (Fin k) (Fin k) K)
    (hx : i.x.length = n) (hg : i.g.length = n) (hW : i.W.length = n) (hrow : ∀ r, r < n → (i.W.getD r []).length = k)
    (uf : i.useFactor = true) (hA : Sq k i.Minv) (hM : Mm * wmat k k i.Minv = 1)
    (hs : (wmat k k i.Minv)ᵀ = wmat k k i.Minv) : QCtx i n k Mm :=
  ⟨hx, hg, hW, hrow, C08.middle_symm Mm _ hM hs, middle_product_exact i k Mm uf hA.len hA.row hM⟩

/-- **C08** `gcp_first_local_min` with no hypothesis on `mv`: its `QCtx` comes from `qctx_of_pivots` -/
theorem gcp_first_local_min_solved (i : CauchyIn K) (n k : Nat) (Mm : Matrix (Fin k) (Fin k) K) (hk : kOf i = k)
    (hx : i.x.length = n) (hg : i.g.length = n) (hW : i.W.length = n) (hrow : ∀ r, r < n → (i.W.getD r []).length = k)
    (uf : i.useFactor = true) (hA : i.Minv.length = k) (hMrow : ∀ r, r < k → (i.Minv.getD r []).length = k)
    (hM : Mm * wmat k k i.Minv = 1) (hs : (wmat k k i.Minv)ᵀ = wmat k k i.Minv)
    (box : InBoxF i.lb i.ub i.x)
    (pd : ∀ a : Fin n → K, a ≠ 0 → 0 < a ⬝ᵥ (bmat i.theta (wmat n k i.W) Mm *ᵥ a))
    (floor : ∀ dd : Fin n → K, dd ≠ 0 →
      (∀ r, dd r = 0 ∨ dd r = vec n (cauchyD0 (breakpoints i.x i.g i.lb i.ub) i.g) r) →
      i.epsFsec * f2orgOf i ≤ dd ⬝ᵥ (bmat i.theta (wmat n k i.W) Mm *ᵥ dd)) :
    ∃ tF, 0 ≤ tF ∧
      (∀ p q, 0 ≤ p → p < q → q ≤ tF → phi i n k Mm q < phi i n k Mm p) ∧
      (∃ δ, 0 < δ ∧ ∀ τ, tF ≤ τ → τ ≤ tF + δ → phi i n k Mm tF ≤ phi i n k Mm τ) ∧
      (cauchy i).1 = clip (vsub i.x (smul tF i.g)) i.lb i.ub ∧
      vec k (cauchy i).2 =
        (wmat n k i.W)ᵀ *ᵥ (vec n (clip (vsub i.x (smul tF i.g)) i.lb i.ub) - vec n i.x) :=
  C08.gcp_first_local_min i n k Mm hk
    ⟨qctx_of_pivots i n k Mm hx hg hW hrow uf ⟨hA, hMrow⟩ hM hs, box, pd, floor⟩

/-- **C09** `subspace_newton_point` under `SubCtxP`: non-vanishing pivots, a computable condition, in place of the two exact-solve
hypotheses of `SubCtx` -/
theorem subspace_newton_point_solved (i : SubIn K) (n k : Nat) (Mm : Matrix (Fin k) (Fin k) K) (h : SubCtxP i n k Mm) :
    ∃ (al : K) (u : Vec K), u.length = n ∧ 0 ≤ al ∧ al ≤ 1 ∧ subspaceMin i = vadd i.xc (smul al u) ∧
      InBoxF i.lb i.ub (subspaceMin i) ∧
      (∀ r, maskF n (freeMask i.xc i.lb i.ub) r = false → vec n u r = 0) ∧
      (∀ r, maskF n (freeMask i.xc i.lb i.ub) r = true →
        (vec n i.g + bmat i.theta (wmat n k i.W) Mm *ᵥ ((vec n i.xc - vec n i.x) + vec n u)) r = 0) :=
  subspace_newton_point i n k Mm _ h.toSubCtx

/-- **C09** `subspace_model_no_increase` under `SubCtxP` -/
theorem subspace_model_no_increase_solved (i : SubIn K) (n k : Nat) (Mm : Matrix (Fin k) (Fin k) K)
    (h : SubCtxP i n k Mm) (hsym : Mmᵀ = Mm)
    (hpsd : ∀ a : Fin n → K, 0 ≤ a ⬝ᵥ (bmat i.theta (wmat n k i.W) Mm *ᵥ a)) :
    qmodel (vec n i.g) (bmat i.theta (wmat n k i.W) Mm) (vec n (subspaceMin i) - vec n i.x) ≤
      qmodel (vec n i.g) (bmat i.theta (wmat n k i.W) Mm) (vec n i.xc - vec n i.x) :=
  subspace_model_no_increase i n k Mm _ h.toSubCtx hsym hpsd

/-- **C09** `subspace_direction_descent` under `SubCtxP` -/
theorem subspace_direction_descent_solved (i : SubIn K) (n k : Nat) (Mm : Matrix (Fin k) (Fin k) K)
    (h : SubCtxP i n k Mm) (hsym : Mmᵀ = Mm)
    (hpsd : ∀ a : Fin n → K, 0 ≤ a ⬝ᵥ (bmat i.theta (wmat n k i.W) Mm *ᵥ a))
    (hc : qmodel (vec n i.g) (bmat i.theta (wmat n k i.W) Mm) (vec n i.xc - vec n i.x) < 0) :
    vec n i.g ⬝ᵥ (vec n (subspaceMin i) - vec n i.x) < 0 :=
  subspace_direction_descent i n k Mm _ h.toSubCtx hsym hpsd hc

/-- **C09** `subspace_newton_point` with no hypothesis on any solve: with a positive definite model the reduced system is regular
(`maskedN_injective`), so no pivot of either elimination vanishes -/
theorem subspace_newton_point_pd (i : SubIn K) (n k : Nat) (Mm : Matrix (Fin k) (Fin k) K)
    (hx : i.x.length = n) (hg : i.g.length = n) (hxc : i.xc.length = n) (hW : i.W.length = n)
    (hrow : ∀ r, r < n → (i.W.getD r []).length = k) (hcl : i.c.length = k) (box : InBoxF i.lb i.ub i.xc)
    (hθ : i.theta ≠ 0) (uf : i.useFactor = true) (hk : subK i = k) (hMl : i.Minv.length = k)
    (hMrow : ∀ r, r < k → (i.Minv.getD r []).length = k) (hM : Mm * wmat k k i.Minv = 1)
    (hc : vec k i.c = (wmat n k i.W)ᵀ *ᵥ (vec n i.xc - vec n i.x))
    (pd : ∀ a : Fin n → K, a ≠ 0 → 0 < a ⬝ᵥ (bmat i.theta (wmat n k i.W) Mm *ᵥ a)) :
    ∃ (al : K) (u : Vec K), u.length = n ∧ 0 ≤ al ∧ al ≤ 1 ∧ subspaceMin i = vadd i.xc (smul al u) ∧
      InBoxF i.lb i.ub (subspaceMin i) ∧
      (∀ r, maskF n (freeMask i.xc i.lb i.ub) r = false → vec n u r = 0) ∧
      (∀ r, maskF n (freeMask i.xc i.lb i.ub) r = true →
        (vec n i.g + bmat i.theta (wmat n k i.W) Mm *ᵥ ((vec n i.xc - vec n i.x) + vec n u)) r = 0) :=
  subspace_newton_point_solved i n k Mm (SubCtxP.of_pd hx hg hxc hW hrow hcl box hθ uf hk hMl hMrow hM hc pd)

/-- **C01** `complete_iteration_descent` with no hypothesis on any solve (`MinCtx` assembled through `qctx_of_pivots`, `SubCtxP` for
`SubCtx`): the direction `x̄ − x` of the composed kernels on `kernelInput` is a descent direction at every non-stationary point -/
theorem complete_iteration_descent_solved (lb ub : Vec K) (e : K) (x g : Vec K) (mats : Mats K) (n k : Nat)
    (Mm : Matrix (Fin k) (Fin k) K)
    (hk : kOf (kernelInput x g lb ub mats e) = k)
    (hx : (kernelInput x g lb ub mats e).x.length = n) (hg : (kernelInput x g lb ub mats e).g.length = n)
    (hW : (kernelInput x g lb ub mats e).W.length = n)
    (hrow : ∀ r, r < n → ((kernelInput x g lb ub mats e).W.getD r []).length = k)
    (uf : (kernelInput x g lb ub mats e).useFactor = true)
    (hs : (wmat k k (kernelInput x g lb ub mats e).Minv)ᵀ = wmat k k (kernelInput x g lb ub mats e).Minv)
    (box : InBoxF (kernelInput x g lb ub mats e).lb (kernelInput x g lb ub mats e).ub (kernelInput x g lb ub mats e).x)
    (pd : ∀ a : Fin n → K, a ≠ 0 →
      0 < a ⬝ᵥ (bmat (kernelInput x g lb ub mats e).theta (wmat n k (kernelInput x g lb ub mats e).W) Mm *ᵥ a))
    (floor : ∀ dd : Fin n → K, dd ≠ 0 →
      (∀ r, dd r = 0 ∨ dd r = vec n (cauchyD0 (breakpoints (kernelInput x g lb ub mats e).x (kernelInput x g lb ub mats e).g
        (kernelInput x g lb ub mats e).lb (kernelInput x g lb ub mats e).ub) (kernelInput x g lb ub mats e).g) r) →
      (kernelInput x g lb ub mats e).epsFsec * f2orgOf (kernelInput x g lb ub mats e) ≤
        dd ⬝ᵥ (bmat (kernelInput x g lb ub mats e).theta (wmat n k (kernelInput x g lb ub mats e).W) Mm *ᵥ dd))
    (hns : projgr (kernelInput x g lb ub mats e).x (kernelInput x g lb ub mats e).g
      (kernelInput x g lb ub mats e).lb (kernelInput x g lb ub mats e).ub ≠ 0)
    (hsub : SubCtxP (subInOf (kernelInput x g lb ub mats e)) n k Mm) :
    vec n (kernelInput x g lb ub mats e).g ⬝ᵥ
      (vec n (xbarModel lb ub e x g mats) - vec n (kernelInput x g lb ub mats e).x) < 0 :=
  IterCtx.descent ⟨hk, ⟨qctx_of_pivots _ n k Mm hx hg hW hrow uf ⟨hsub.hMl, hsub.hMrow⟩ hsub.hM hs, box, pd, floor⟩, hsub.hxc,
    subspace_spec _ n k Mm _ hsub.toSubCtx⟩ hns

end Lbfgsb.C09

/-! ### Non-vacuity (ℚ): the instance of `C09Run` — its pivots are computed and do not vanish -/
namespace Lbfgsb.C09
open Lbfgsb Matrix Lbfgsb.Gauss

theorem ex_pivM : pivotsOf exSub.Minv 2 = [-1, 2] := by decide +kernel

theorem ex_subctxP : SubCtxP exSub 2 2 exM where
  hx := rfl
  hg := rfl
  hxc := rfl
  hW := rfl
  hrow := ex_subctx.hrow
  hcl := rfl
  box := ex_subctx.box
  hθ := ex_subctx.hθ
  uf := rfl
  hk := rfl
  hMl := rfl
  hMrow := by decide
  hM := by decide +kernel
  hc := ex_subctx.hc
  pivN := by decide +kernel

example : ∃ (al : ℚ) (u : Vec ℚ), 0 ≤ al ∧ al ≤ 1 ∧ subspaceMin exSub = vadd exSub.xc (smul al u) :=
  let ⟨al, u, _, h0, h1, he, _⟩ := subspace_newton_point_solved exSub 2 2 exM ex_subctxP
  ⟨al, u, h0, h1, he⟩

/-- a 3 × 3 system whose first pivot needs a row exchange -/
example : gaussSolve ([[0, 2, 1], [1, 1, 0], [3, 0, 1]] : List (Vec ℚ)) [5, 3, 6] = [7 / 5, 8 / 5, 9 / 5] ∧
    pivotsOf ([[0, 2, 1], [1, 1, 0], [3, 0, 1]] : List (Vec ℚ)) 3 = [3, 2, -5 / 6] := by decide +kernel

end Lbfgsb.C09
