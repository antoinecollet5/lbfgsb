/-
  C01 — at a non-stationary point the iteration has a descent direction (exact arithmetic). The chain behind "the solver never stalls at
  a point that is far from stationary": projected gradient ≠ 0 ⇒ (C01 `nonstationary_moves`) the projected steepest-descent direction is
  not zero ⇒ (C08 `gcp_model_neg`) the model value at the Cauchy point is strictly negative ⇒ (C09 `direction_descent`) after the
  truncated Newton step on the free variables `d = x̄ − x` satisfies `gᵀd < 0`, so a line search with a sufficient-decrease condition can
  accept a positive step (what DCSRCH does with it in floating point is decided by the convex-run search, harness/props/c01.py).
-/
import LbfgsbVerif.Model.Kernels
import LbfgsbVerif.Props.C01
import LbfgsbVerif.Props.C08Min
import LbfgsbVerif.Props.C09Run

namespace Lbfgsb.C01
open Lbfgsb Matrix
variable {K : Type} [Field K] [LinearOrder K] [IsStrictOrderedRing K]

/-- **C01** non-stationary ⇒ strict decrease of the model at the generalized Cauchy point -/
theorem nonstationary_cauchy_decrease (i : CauchyIn K) (n k : Nat) (Mm : Matrix (Fin k) (Fin k) K)
    (hk : kOf i = k) (hc : MinCtx i n k Mm (f2orgOf i)) (hns : projgr i.x i.g i.lb i.ub ≠ 0) :
    qmodel (vec n i.g) (bmat i.theta (wmat n k i.W) Mm) (vec n (cauchy i).1 - vec n i.x) < 0 := by
  have hg := hc.hgx
  obtain ⟨d, hd, hne⟩ := nonstationary_moves i.x i.g i.lb i.ub hc.box hg hns
  have hlen : (cauchyD0 (breakpoints i.x i.g i.lb i.ub) i.g).length = n :=
    (cauchyD0_length_of_box i hc.box hg).trans hc.q.hx
  exact C08.gcp_model_neg i n k Mm hk hc fun h0 => hne ((vec_eq_zero_iff n _ hlen).1 h0 d hd)

/-- **C01** non-stationary ⇒ the search direction is a descent direction -/
theorem nonstationary_descent (i : CauchyIn K) (n k : Nat) (Mm : Matrix (Fin k) (Fin k) K)
    (hk : kOf i = k) (hc : MinCtx i n k Mm (f2orgOf i)) (hns : projgr i.x i.g i.lb i.ub ≠ 0)
    (u : Fin n → K) (free : Fin n → Bool) (hact : ∀ r, free r = false → u r = 0)
    (hnewton : ∀ r, free r = true →
      (vec n i.g + bmat i.theta (wmat n k i.W) Mm *ᵥ ((vec n (cauchy i).1 - vec n i.x) + u)) r = 0)
    (α : K) (h0 : 0 ≤ α) (h1 : α ≤ 1) :
    vec n i.g ⬝ᵥ ((vec n (cauchy i).1 - vec n i.x) + α • u) < 0 :=
  C09.direction_descent _ _ (bmat_symm _ _ _ hc.q.hsym) hc.psd
    _ u free hact hnewton (nonstationary_cauchy_decrease i n k Mm hk hc hns) α h0 h1

/-- **C01** the same for the two executable models chained as the driver chains the routines:
`x̄ = subspaceMin` applied to the output of `cauchy`. At a non-stationary iterate `gᵀ(x̄ − x) < 0`. -/
theorem model_iteration_descent (i : CauchyIn K) (n k : Nat) (Mm Minvm : Matrix (Fin k) (Fin k) K)
    (hk : kOf i = k) (hc : MinCtx i n k Mm (f2orgOf i)) (hns : projgr i.x i.g i.lb i.ub ≠ 0)
    (j : SubIn K) (hj : j.toCauchyIn = i) (hxc : j.xc = (cauchy i).1) (hsub : SubCtx j n k Mm Minvm) :
    vec n i.g ⬝ᵥ (vec n (subspaceMin j) - vec n i.x) < 0 := by
  have hdec := nonstationary_cauchy_decrease i n k Mm hk hc hns
  subst hj
  exact C09.subspace_direction_descent j n k Mm Minvm hsub hc.q.hsym hc.psd (hxc ▸ hdec)

end Lbfgsb.C01

namespace Lbfgsb
variable {K : Type} [Field K] [LinearOrder K] [IsStrictOrderedRing K]
open Matrix

/-- what the theorems about one iteration `subspaceMin ∘ cauchy` use of its input, whether the memory holds pairs (`pairs_ctx`,
`Mm` an inverse of the middle matrix) or not (`nopairs_ctx`, `k = 1`, `Mm = 0`); `B = bmat i.theta (wmat n k i.W) Mm` is the model
matrix of both halves -/
structure IterCtx (i : CauchyIn K) (n k : Nat) (Mm : Matrix (Fin k) (Fin k) K) : Prop where
  hk : kOf i = k
  min : MinCtx i n k Mm (f2orgOf i)
  hxc : (cauchy i).1.length = n
  spec : SubSpec (subInOf i) n k Mm

/-- **C01** the direction `x̄ − x` the composed kernels compute is a descent direction at every non-stationary point -/
theorem IterCtx.descent {i : CauchyIn K} {n k : Nat} {Mm : Matrix (Fin k) (Fin k) K} (h : IterCtx i n k Mm)
    (hns : projgr i.x i.g i.lb i.ub ≠ 0) : vec n i.g ⬝ᵥ (vec n (subspaceMin (subInOf i)) - vec n i.x) < 0 :=
  C09.descent_of_spec (subInOf i) n k Mm h.spec h.hxc h.min.q.hsym h.min.psd
    (C01.nonstationary_cauchy_decrease i n k Mm h.hk h.min hns)

/-- … in the terms of `xbarModel`, under the analytic hypotheses `MinCtx`, `SubCtx` for the kernel input built from the memory snapshot -/
theorem complete_iteration_descent (lb ub : Vec K) (e : K) (x g : Vec K) (mats : Mats K) (n k : Nat)
    (Mm Minvm : Matrix (Fin k) (Fin k) K)
    (hk : kOf (kernelInput x g lb ub mats e) = k)
    (hc : MinCtx (kernelInput x g lb ub mats e) n k Mm (f2orgOf (kernelInput x g lb ub mats e)))
    (hns : projgr (kernelInput x g lb ub mats e).x (kernelInput x g lb ub mats e).g
      (kernelInput x g lb ub mats e).lb (kernelInput x g lb ub mats e).ub ≠ 0)
    (hsub : SubCtx (subInOf (kernelInput x g lb ub mats e)) n k Mm Minvm) :
    vec n (kernelInput x g lb ub mats e).g ⬝ᵥ
      (vec n (xbarModel lb ub e x g mats) - vec n (kernelInput x g lb ub mats e).x) < 0 :=
  IterCtx.descent ⟨hk, hc, hsub.hxc, subspace_spec _ n k Mm Minvm hsub⟩ hns

end Lbfgsb
