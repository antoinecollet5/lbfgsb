/-
  C19 — each packaged benchmark gradient is the gradient of its benchmark function. Level R (real analysis, Mathlib). The definitions
  `Generated.Bench.*` are REGENERATED from /repo/lbfgsb/benchmarks.py on every run by translate/bench2lean.py, so these theorems are
  re-checked against what the source says now. For every pair `(f, f_grad)`, every dimension `n` the function accepts, every point `x` of
  the domain and every coordinate `k < n`: `HasDerivAt (fun t => f n (Function.update x k t)) (f_grad n x k) (x k)` — the exact statement
  of which "agrees with a high-order numerical derivative" is the observable shadow. Domains: Ackley needs `∑ xᵢ² ≠ 0`, Griewank needs
  `cos(x_k/√(k+1)) ≠ 0` (the code divides by them); the others are unrestricted.
-/
import LbfgsbVerif.Generated.Bench
import LbfgsbVerif.Proofs.Deriv

namespace Lbfgsb.C19
open Lbfgsb.Generated.Bench Lbfgsb.Deriv Finset

theorem sphere_deriv (n k : ℕ) (hk : k < n) (x : ℕ → ℝ) :
    HasDerivAt (fun t => sphere n (Function.update x k t)) (sphere_grad n x k) (x k) := by
  unfold sphere sphere_grad
  refine (sum_separable n k hk x (fun _ y => y ^ 2) _ (hasDerivAt_pow 2 (x k))).congr_deriv ?_
  ring

theorem quartic_deriv (n k : ℕ) (hk : k < n) (x : ℕ → ℝ) :
    HasDerivAt (fun t => quartic n (Function.update x k t)) (quartic_grad n x k) (x k) := by
  unfold quartic quartic_grad
  refine (sum_separable n k hk x (fun i y => (((i : ℕ) : ℝ) + 1) * y ^ 4) _
    ((hasDerivAt_pow 4 (x k)).const_mul _)).congr_deriv ?_
  ring

theorem styblinski_tang_deriv (n k : ℕ) (hk : k < n) (x : ℕ → ℝ) :
    HasDerivAt (fun t => styblinski_tang n (Function.update x k t)) (styblinski_tang_grad n x k)
      (x k) := by
  unfold styblinski_tang styblinski_tang_grad
  have hsum := sum_separable n k hk x (fun _ y => y ^ 4 - 16 * y ^ 2 + 5 * y) _
    (((hasDerivAt_pow 4 (x k)).fun_sub ((hasDerivAt_pow 2 (x k)).const_mul 16)).fun_add
      ((hasDerivAt_id' (x k)).const_mul 5))
  refine ((hsum.const_mul 0.5).add_const _).congr_deriv ?_
  ring

theorem rastrigin_deriv (n k : ℕ) (hk : k < n) (x : ℕ → ℝ) :
    HasDerivAt (fun t => rastrigin n (Function.update x k t)) (rastrigin_grad n x k) (x k) := by
  unfold rastrigin rastrigin_grad
  have hsum := sum_separable n k hk x (fun _ y => y ^ 2 - 10 * Real.cos (2 * Real.pi * y)) _
    ((hasDerivAt_pow 2 (x k)).fun_sub ((hasDerivAt_const_mul (2 * Real.pi)).cos.const_mul 10))
  refine (hsum.const_add _).congr_deriv ?_
  ring

theorem rosenbrock_deriv (n k : ℕ) (hk : k < n) (x : ℕ → ℝ) :
    HasDerivAt (fun t => rosenbrock n (Function.update x k t)) (rosenbrock_grad n x k) (x k) := by
  unfold rosenbrock rosenbrock_grad
  have h1 := sum_chained n k x (fun _ a b => (b - a ^ 2) ^ 2) _ _
    (fun i => ((hasDerivAt_pow 2 (x i)).const_sub (x (i + 1))).fun_pow 2)
    (fun i => ((hasDerivAt_id' (x (i + 1))).sub_const (x i ^ 2)).fun_pow 2)
  have h2 := sum_chained n k x (fun _ a _ => (1 - a) ^ 2) _ _
    (fun i => ((hasDerivAt_id' (x i)).const_sub 1).fun_pow 2)
    (fun i => hasDerivAt_const (x (i + 1)) _)
  refine ((h1.const_mul 100).fun_add h2).congr_deriv ?_
  split_ifs <;> ring

theorem beale_deriv (n k : ℕ) (hk : k < n) (x : ℕ → ℝ) :
    HasDerivAt (fun t => beale n (Function.update x k t)) (beale_grad n x k) (x k) := by
  unfold beale beale_grad
  have sq (c : ℝ) {a : ℝ} {A B : ℝ → ℝ} {A' B' : ℝ} (hA : HasDerivAt A A' a)
      (hB : HasDerivAt B B' a) := ((hA.const_sub c).fun_add (hA.fun_mul hB)).fun_pow 2
  refine (sum_chained n k x
    (fun _ a b => (1.5 - a + a * b) ^ 2 + (2.25 - a + a * b ^ 2) ^ 2 + (2.625 - a + a * b ^ 3) ^ 2)
    _ _
    (fun i =>
      have ha := hasDerivAt_id' (x i)
      have hb (p : ℕ) := hasDerivAt_const (x i) (x (i + 1) ^ p)
      ((sq 1.5 ha (hasDerivAt_const (x i) (x (i + 1)))).fun_add (sq 2.25 ha (hb 2))).fun_add
        (sq 2.625 ha (hb 3)))
    (fun i =>
      have ha := hasDerivAt_const (x (i + 1)) (x i)
      have hb := hasDerivAt_id' (x (i + 1))
      ((sq 1.5 ha hb).fun_add (sq 2.25 ha (hb.fun_pow 2))).fun_add
        (sq 2.625 ha (hb.fun_pow 3)))).congr_deriv ?_
  -- both sides are `(if _ then _ else 0) + (if _ then _ else 0)` under the same two conditions
  congr 2 <;> ring

theorem ackley_deriv (n k : ℕ) (hk : k < n) (x : ℕ → ℝ)
    (hdom : (∑ i ∈ range n, x i ^ 2) ≠ 0) :
    HasDerivAt (fun t => ackley n (Function.update x k t)) (ackley_grad n x k) (x k) := by
  unfold ackley ackley_grad
  have hn : (n : ℝ) ≠ 0 := Nat.cast_ne_zero.2 (Nat.ne_zero_of_lt hk)
  have hS := sphere_deriv n k hk x
  unfold sphere sphere_grad at hS
  have hC := (sum_separable n k hk x (fun _ y => Real.cos (2 * Real.pi * y)) _
    (hasDerivAt_const_mul (2 * Real.pi)).cos).const_mul (1 / (n : ℝ))
  have hsqrt := sqrt_comp (hS.const_mul (1 / (n : ℝ))) (by
    simpa only [Function.update_eq_self] using mul_ne_zero (one_div_ne_zero hn) hdom)
  refine ((((hsqrt.const_mul (-0.2)).exp.const_mul 20).const_sub _).fun_sub hC.exp).congr_deriv ?_
  simp only [Function.update_eq_self, one_div_mul_eq_div]
  field_simp
  ring

theorem griewank_deriv (n k : ℕ) (hk : k < n) (x : ℕ → ℝ)
    (hdom : Real.cos (x k / Real.sqrt (((k : ℕ) : ℝ) + 1)) ≠ 0) :
    HasDerivAt (fun t => griewank n (Function.update x k t)) (griewank_grad n x k) (x k) := by
  unfold griewank griewank_grad
  have hS := sphere_deriv n k hk x
  unfold sphere sphere_grad at hS
  have hP := prod_separable n k hk x (fun i y => Real.cos (y / Real.sqrt (((i : ℕ) : ℝ) + 1))) _
    ((hasDerivAt_id' (x k)).div_const _).cos hdom
  refine (((hS.div_const 4000).const_add 1).fun_sub hP).congr_deriv ?_
  ring

end Lbfgsb.C19
