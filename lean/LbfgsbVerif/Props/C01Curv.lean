/-
  C01 — descent at every non-stationary iterate of the COMPLETE model, from the curvature of the stored pairs alone: `s ≠ 0`, `sᵀy > 0`
  for every pair of the memory snapshot (what `updateMats` / the history filter guarantee: C10 / C13 / C18 invariants), `θ > 0`, the
  Fortran floor on `f''` inactive — and no hypothesis on any solve, on the middle matrix or on positive definiteness: the middle matrix
  is invertible and `θI − W M Wᵀ` is the BFGS matrix of the pairs (`C10.kernel_matrix_is_bfgs`), the dense solves are exact
  (Props/C09Solve), `c = Wᵀ(x_cp − x)` (C08). All of it is `pairs_ctx`: a kernel input whose matrices are those of positive-curvature
  pairs satisfies `IterCtx` (Props/C01Descent); `kernel_ctx` is its instance for the input built from a memory snapshot.
-/
import LbfgsbVerif.Props.C10Kernel
import LbfgsbVerif.Props.C18
import Mathlib.LinearAlgebra.Matrix.NonsingularInverse

namespace Lbfgsb.C01
open Lbfgsb Matrix CompactKernel CompactBridge CompactBfgs Lbfgsb.Gauss
variable {K : Type} [Field K] [LinearOrder K] [IsStrictOrderedRing K]

/-- the middle matrix of positive-curvature pairs is invertible: the explicit inverse of the bordering, re-indexed, is a left inverse
of the list matrix of `buildMinv` -/
theorem kernel_minv_invertible (nn : Nat) (θ : K) (S Y : List (Vec K)) (hθ : 0 < θ) (h : S.length = Y.length)
    (hS : ∀ j, j < S.length → (S.getD j []).length = nn) (hY : ∀ j, j < S.length → (Y.getD j []).length = nn)
    (hcurv : ∀ j, j < S.length → vec nn (S.getD j []) ≠ 0 ∧ 0 < vec nn (S.getD j []) ⬝ᵥ vec nn (Y.getD j [])) :
    ∃ Mm : Matrix (Fin ((lOf nn S Y).length + (lOf nn S Y).length)) (Fin ((lOf nn S Y).length + (lOf nn S Y).length)) K,
      Mm * wmat ((lOf nn S Y).length + (lOf nn S Y).length) ((lOf nn S Y).length + (lOf nn S Y).length)
        (buildMinv θ S Y) = 1 := by
  have hnd := (C10.nonDeg_of_curvature θ hθ (lOf nn S Y)
    (fun p hq => pairsOf_curv nn S Y h hcurv p (List.mem_reverse.1 hq))).1
  -- the bordering yields a right inverse, the contexts ask for a left one: the only place where the side is switched
  have hN := mul_eq_one_comm.mp (block_N_inv θ (lOf nn S Y) hnd)
  rw [N_eq_buildMinv nn θ S Y h hS hY] at hN
  -- `Ninvl` is indexed by `Idx`; `descEquiv` brings it to `Fin m ⊕ Fin m`, `finSumFinEquiv` to the `Fin (m + m)` of `wmat`
  refine ⟨((Ninvl θ (lOf nn S Y)).submatrix (descEquiv (lOf nn S Y)).symm (descEquiv (lOf nn S Y)).symm).submatrix
    finSumFinEquiv.symm finSumFinEquiv.symm, ?_⟩
  rw [← submatrix_one_equiv finSumFinEquiv.symm, ← hN, ← submatrix_mul_equiv _ _ _ finSumFinEquiv.symm]
  congr 1
  rw [submatrix_submatrix, Equiv.self_comp_symm, submatrix_id_id]

/-- one inverse `Mm` of the middle matrix serves the whole iteration: the Cauchy search, the subspace step at the Cauchy point the
model itself computes, and the identification of the model matrix -/
theorem pairs_ctx (i : CauchyIn K) (n : Nat) (S Y : List (Vec K)) (hn : 0 < n)
    (hWeq : i.W = buildW n i.theta S Y) (hMeq : i.Minv = buildMinv i.theta S Y) (uf : i.useFactor = true)
    (hθ : 0 < i.theta) (h : S.length = Y.length)
    (hS : ∀ j, j < S.length → (S.getD j []).length = n) (hY : ∀ j, j < S.length → (Y.getD j []).length = n)
    (hcurv : ∀ j, j < S.length → vec n (S.getD j []) ≠ 0 ∧ 0 < vec n (S.getD j []) ⬝ᵥ vec n (Y.getD j []))
    (hx : i.x.length = n) (hg : i.g.length = n) (box : InBoxF i.lb i.ub i.x)
    (floor : ∀ dd : Fin n → K, dd ≠ 0 →
      (∀ r, dd r = 0 ∨ dd r = vec n (cauchyD0 (breakpoints i.x i.g i.lb i.ub) i.g) r) →
      i.epsFsec * f2orgOf i ≤ dd ⬝ᵥ (C10.bfgsChain (i.theta • (1 : Matrix (Fin n) (Fin n) K)) (pairsOf n S Y) *ᵥ dd)) :
    ∃ Mm : Matrix (Fin ((lOf n S Y).length + (lOf n S Y).length)) (Fin ((lOf n S Y).length + (lOf n S Y).length)) K,
      IterCtx i n _ Mm ∧
      bmat i.theta (wmat n _ i.W) Mm = C10.bfgsChain (i.theta • (1 : Matrix (Fin n) (Fin n) K)) (pairsOf n S Y) := by
  have sz := C10.pairs_sizes i n S Y hn hWeq hMeq h
  obtain ⟨Mm, hM⟩ := kernel_minv_invertible n i.theta S Y hθ h hS hY hcurv
  obtain ⟨hB, hspd⟩ := C10.kernel_matrix_is_bfgs n i.theta S Y hθ h hS hY hcurv Mm hM
  rw [← hMeq] at hM
  rw [← hWeq] at hB
  have hmin : MinCtx i n _ Mm (f2orgOf i) :=
    ⟨C09.qctx_of_pivots i n _ Mm hx hg sz.hW sz.hrow uf sz.hM hM sz.hsym, box, fun a ha => hB ▸ hspd.2 a ha,
      fun dd hne hpat => hB ▸ floor dd hne hpat⟩
  obtain ⟨tF, -, -, -, hcp, hcv⟩ := C08.gcp_first_local_min i n _ Mm sz.hk hmin
  have hbx := inBoxF_iff_inBox.1 box
  have hboxc : InBoxF i.lb i.ub (cauchy i).1 :=
    inBoxF_iff_inBox.2 (C08.gcp_in_box i (boxOk_of_inBox hbx) hbx (hg.trans hx.symm))
  have hxc : (cauchy i).1.length = n := (inBoxF_lengths hboxc).1.symm.trans ((inBoxF_lengths box).1.trans hx)
  rw [← hcp] at hcv
  have hsub := (C10.subCtxP_of_pairs (subInOf i) n S Y hn hWeq hMeq hθ h hS hY hcurv Mm hM hx hg hxc
    (cauchy_c_length i n _ Mm sz.hk hmin) hboxc uf hcv).1
  exact ⟨Mm, ⟨sz.hk, hmin, hxc, subspace_spec _ n _ Mm _ hsub.toSubCtx⟩, hB⟩

/-- `pairs_ctx` for the input built from a memory snapshot; the dimension is a parameter, so that two inputs of equal length can be
spoken of over one index type -/
theorem kernel_ctx (n : Nat) (lb ub : Vec K) (e : K) (x g : Vec K) (X G : List (Vec K)) (hxn : x.length = n)
    (hX : X.length > 1) (hXG : X.length = G.length) (hn : 0 < n)
    (hS : ∀ j, j < (diffs X).length → ((diffs X).getD j []).length = n)
    (hY : ∀ j, j < (diffs X).length → ((diffs G).getD j []).length = n)
    (hcurv : ∀ j, j < (diffs X).length → vec n ((diffs X).getD j []) ≠ 0 ∧
      0 < vec n ((diffs X).getD j []) ⬝ᵥ vec n ((diffs G).getD j []))
    (hθ : 0 < thetaOf X G) (box : InBoxF lb ub x)
    (floor : ∀ dd : Fin n → K, dd ≠ 0 →
      (∀ r, dd r = 0 ∨ dd r = vec n (cauchyD0 (breakpoints x (fitTo x g) lb ub) (fitTo x g)) r) →
      e * f2orgOf (kernelInput x g lb ub (some (X, G)) e) ≤
        dd ⬝ᵥ (C10.bfgsChain ((thetaOf X G) • (1 : Matrix (Fin n) (Fin n) K)) (pairsOf n (diffs X) (diffs G)) *ᵥ dd)) :
    ∃ Mm : Matrix (Fin ((lOf n (diffs X) (diffs G)).length + (lOf n (diffs X) (diffs G)).length))
        (Fin ((lOf n (diffs X) (diffs G)).length + (lOf n (diffs X) (diffs G)).length)) K,
      IterCtx (kernelInput x g lb ub (some (X, G)) e) n _ Mm ∧
      bmat (kernelInput x g lb ub (some (X, G)) e).theta (wmat n _ (kernelInput x g lb ub (some (X, G)) e).W) Mm =
        C10.bfgsChain ((thetaOf X G) • (1 : Matrix (Fin n) (Fin n) K)) (pairsOf n (diffs X) (diffs G)) := by
  subst hxn
  have hi := kernelInput_some lb ub e x g X G hX
  rw [hi] at floor ⊢
  exact pairs_ctx _ x.length (diffs X) (diffs G) hn rfl rfl rfl hθ (by rw [diffs_length, diffs_length, hXG]) hS hY hcurv rfl
    (fitTo_length x g) box floor

/-- `kernel_ctx` at `n = x.length`, opened: the number of columns and the Cauchy context -/
theorem kernel_minCtx (lb ub : Vec K) (e : K) (x g : Vec K) (X G : List (Vec K))
    (hX : X.length > 1) (hXG : X.length = G.length) (hn : 0 < x.length)
    (hS : ∀ j, j < (diffs X).length → ((diffs X).getD j []).length = x.length)
    (hY : ∀ j, j < (diffs X).length → ((diffs G).getD j []).length = x.length)
    (hcurv : ∀ j, j < (diffs X).length → vec x.length ((diffs X).getD j []) ≠ 0 ∧
      0 < vec x.length ((diffs X).getD j []) ⬝ᵥ vec x.length ((diffs G).getD j []))
    (hθ : 0 < thetaOf X G) (box : InBoxF lb ub x)
    (floor : ∀ dd : Fin x.length → K, dd ≠ 0 →
      (∀ r, dd r = 0 ∨ dd r = vec x.length (cauchyD0 (breakpoints x (fitTo x g) lb ub) (fitTo x g)) r) →
      e * f2orgOf (kernelInput x g lb ub (some (X, G)) e) ≤
        dd ⬝ᵥ (C10.bfgsChain ((thetaOf X G) • (1 : Matrix (Fin x.length) (Fin x.length) K))
          (pairsOf x.length (diffs X) (diffs G)) *ᵥ dd)) :
    ∃ Mm : Matrix (Fin ((lOf x.length (diffs X) (diffs G)).length + (lOf x.length (diffs X) (diffs G)).length))
        (Fin ((lOf x.length (diffs X) (diffs G)).length + (lOf x.length (diffs X) (diffs G)).length)) K,
      kOf (kernelInput x g lb ub (some (X, G)) e) =
        (lOf x.length (diffs X) (diffs G)).length + (lOf x.length (diffs X) (diffs G)).length ∧
      MinCtx (kernelInput x g lb ub (some (X, G)) e) x.length _ Mm (f2orgOf (kernelInput x g lb ub (some (X, G)) e)) := by
  obtain ⟨Mm, ctx, -⟩ := kernel_ctx x.length lb ub e x g X G rfl hX hXG hn hS hY hcurv hθ box floor
  exact ⟨Mm, ctx.hk, ctx.min⟩

/-- … and the identification of `θI − W Mm Wᵀ` with the BFGS matrix of the pairs -/
theorem kernel_minCtx_B (lb ub : Vec K) (e : K) (x g : Vec K) (X G : List (Vec K))
    (hX : X.length > 1) (hXG : X.length = G.length) (hn : 0 < x.length)
    (hS : ∀ j, j < (diffs X).length → ((diffs X).getD j []).length = x.length)
    (hY : ∀ j, j < (diffs X).length → ((diffs G).getD j []).length = x.length)
    (hcurv : ∀ j, j < (diffs X).length → vec x.length ((diffs X).getD j []) ≠ 0 ∧
      0 < vec x.length ((diffs X).getD j []) ⬝ᵥ vec x.length ((diffs G).getD j []))
    (hθ : 0 < thetaOf X G) (box : InBoxF lb ub x)
    (floor : ∀ dd : Fin x.length → K, dd ≠ 0 →
      (∀ r, dd r = 0 ∨ dd r = vec x.length (cauchyD0 (breakpoints x (fitTo x g) lb ub) (fitTo x g)) r) →
      e * f2orgOf (kernelInput x g lb ub (some (X, G)) e) ≤
        dd ⬝ᵥ (C10.bfgsChain ((thetaOf X G) • (1 : Matrix (Fin x.length) (Fin x.length) K))
          (pairsOf x.length (diffs X) (diffs G)) *ᵥ dd)) :
    ∃ Mm : Matrix (Fin ((lOf x.length (diffs X) (diffs G)).length + (lOf x.length (diffs X) (diffs G)).length))
        (Fin ((lOf x.length (diffs X) (diffs G)).length + (lOf x.length (diffs X) (diffs G)).length)) K,
      kOf (kernelInput x g lb ub (some (X, G)) e) =
        (lOf x.length (diffs X) (diffs G)).length + (lOf x.length (diffs X) (diffs G)).length ∧
      MinCtx (kernelInput x g lb ub (some (X, G)) e) x.length _ Mm (f2orgOf (kernelInput x g lb ub (some (X, G)) e)) ∧
      bmat (kernelInput x g lb ub (some (X, G)) e).theta (wmat x.length _ (kernelInput x g lb ub (some (X, G)) e).W) Mm =
        C10.bfgsChain ((thetaOf X G) • (1 : Matrix (Fin x.length) (Fin x.length) K)) (pairsOf x.length (diffs X) (diffs G)) := by
  obtain ⟨Mm, ctx, hB⟩ := kernel_ctx x.length lb ub e x g X G rfl hX hXG hn hS hY hcurv hθ box floor
  exact ⟨Mm, ctx.hk, ctx.min, hB⟩

/-- … and what the subspace step computes at the Cauchy point (`SubSpec`) -/
theorem kernel_subspec (lb ub : Vec K) (e : K) (x g : Vec K) (X G : List (Vec K))
    (hX : X.length > 1) (hXG : X.length = G.length) (hn : 0 < x.length)
    (hS : ∀ j, j < (diffs X).length → ((diffs X).getD j []).length = x.length)
    (hY : ∀ j, j < (diffs X).length → ((diffs G).getD j []).length = x.length)
    (hcurv : ∀ j, j < (diffs X).length → vec x.length ((diffs X).getD j []) ≠ 0 ∧
      0 < vec x.length ((diffs X).getD j []) ⬝ᵥ vec x.length ((diffs G).getD j []))
    (hθ : 0 < thetaOf X G) (box : InBoxF lb ub x)
    (floor : ∀ dd : Fin x.length → K, dd ≠ 0 →
      (∀ r, dd r = 0 ∨ dd r = vec x.length (cauchyD0 (breakpoints x (fitTo x g) lb ub) (fitTo x g)) r) →
      e * f2orgOf (kernelInput x g lb ub (some (X, G)) e) ≤
        dd ⬝ᵥ (C10.bfgsChain ((thetaOf X G) • (1 : Matrix (Fin x.length) (Fin x.length) K))
          (pairsOf x.length (diffs X) (diffs G)) *ᵥ dd)) :
    ∃ Mm : Matrix (Fin ((lOf x.length (diffs X) (diffs G)).length + (lOf x.length (diffs X) (diffs G)).length))
        (Fin ((lOf x.length (diffs X) (diffs G)).length + (lOf x.length (diffs X) (diffs G)).length)) K,
      kOf (kernelInput x g lb ub (some (X, G)) e) =
        (lOf x.length (diffs X) (diffs G)).length + (lOf x.length (diffs X) (diffs G)).length ∧
      MinCtx (kernelInput x g lb ub (some (X, G)) e) x.length _ Mm (f2orgOf (kernelInput x g lb ub (some (X, G)) e)) ∧
      bmat (kernelInput x g lb ub (some (X, G)) e).theta (wmat x.length _ (kernelInput x g lb ub (some (X, G)) e).W) Mm =
        C10.bfgsChain ((thetaOf X G) • (1 : Matrix (Fin x.length) (Fin x.length) K)) (pairsOf x.length (diffs X) (diffs G)) ∧
      SubSpec (subInOf (kernelInput x g lb ub (some (X, G)) e)) x.length _ Mm := by
  obtain ⟨Mm, ctx, hB⟩ := kernel_ctx x.length lb ub e x g X G rfl hX hXG hn hS hY hcurv hθ box floor
  exact ⟨Mm, ctx.hk, ctx.min, hB, ctx.spec⟩

/-- **C08 (first local minimiser, from the curvature of the stored pairs)** `φ` is taken with the inverse `Mm` of the middle
matrix, i.e. with `B` = the BFGS matrix of the pairs. -/
theorem gcp_first_local_min_curv (lb ub : Vec K) (e : K) (x g : Vec K) (X G : List (Vec K))
    (hX : X.length > 1) (hXG : X.length = G.length) (hn : 0 < x.length)
    (hS : ∀ j, j < (diffs X).length → ((diffs X).getD j []).length = x.length)
    (hY : ∀ j, j < (diffs X).length → ((diffs G).getD j []).length = x.length)
    (hcurv : ∀ j, j < (diffs X).length → vec x.length ((diffs X).getD j []) ≠ 0 ∧
      0 < vec x.length ((diffs X).getD j []) ⬝ᵥ vec x.length ((diffs G).getD j []))
    (hθ : 0 < thetaOf X G) (box : InBoxF lb ub x)
    (floor : ∀ dd : Fin x.length → K, dd ≠ 0 →
      (∀ r, dd r = 0 ∨ dd r = vec x.length (cauchyD0 (breakpoints x (fitTo x g) lb ub) (fitTo x g)) r) →
      e * f2orgOf (kernelInput x g lb ub (some (X, G)) e) ≤
        dd ⬝ᵥ (C10.bfgsChain ((thetaOf X G) • (1 : Matrix (Fin x.length) (Fin x.length) K))
          (pairsOf x.length (diffs X) (diffs G)) *ᵥ dd)) :
    ∃ (Mm : Matrix (Fin ((lOf x.length (diffs X) (diffs G)).length + (lOf x.length (diffs X) (diffs G)).length))
        (Fin ((lOf x.length (diffs X) (diffs G)).length + (lOf x.length (diffs X) (diffs G)).length)) K) (tF : K), 0 ≤ tF ∧
      (∀ p q, 0 ≤ p → p < q → q ≤ tF →
        phi (kernelInput x g lb ub (some (X, G)) e) x.length _ Mm q < phi (kernelInput x g lb ub (some (X, G)) e) x.length _ Mm p) ∧
      (∃ δ, 0 < δ ∧ ∀ τ, tF ≤ τ → τ ≤ tF + δ →
        phi (kernelInput x g lb ub (some (X, G)) e) x.length _ Mm tF ≤ phi (kernelInput x g lb ub (some (X, G)) e) x.length _ Mm τ) ∧
      (cauchy (kernelInput x g lb ub (some (X, G)) e)).1 = clip (vsub x (smul tF (fitTo x g))) lb ub := by
  obtain ⟨Mm, ctx, -⟩ := kernel_ctx x.length lb ub e x g X G rfl hX hXG hn hS hY hcurv hθ box floor
  obtain ⟨tF, h0, hdec, hright, hcp, -⟩ := C08.gcp_first_local_min _ x.length _ Mm ctx.hk ctx.min
  refine ⟨Mm, tF, h0, hdec, hright, ?_⟩
  rw [hcp, kernelInput_some lb ub e x g X G hX]

/-- **C01** descent for the complete model, from the curvature of the stored pairs: `gᵀ(x̄ − x) < 0` at a feasible non-stationary `x`,
`x̄` the point `xbarModel` computes on the memory snapshot. -/
theorem complete_iteration_descent_curv (lb ub : Vec K) (e : K) (x g : Vec K) (X G : List (Vec K))
    (hX : X.length > 1) (hXG : X.length = G.length) (hn : 0 < x.length)
    (hS : ∀ j, j < (diffs X).length → ((diffs X).getD j []).length = x.length)
    (hY : ∀ j, j < (diffs X).length → ((diffs G).getD j []).length = x.length)
    (hcurv : ∀ j, j < (diffs X).length → vec x.length ((diffs X).getD j []) ≠ 0 ∧
      0 < vec x.length ((diffs X).getD j []) ⬝ᵥ vec x.length ((diffs G).getD j []))
    (hθ : 0 < thetaOf X G) (box : InBoxF lb ub x)
    (floor : ∀ dd : Fin x.length → K, dd ≠ 0 →
      (∀ r, dd r = 0 ∨ dd r = vec x.length (cauchyD0 (breakpoints x (fitTo x g) lb ub) (fitTo x g)) r) →
      e * f2orgOf (kernelInput x g lb ub (some (X, G)) e) ≤
        dd ⬝ᵥ (C10.bfgsChain ((thetaOf X G) • (1 : Matrix (Fin x.length) (Fin x.length) K))
          (pairsOf x.length (diffs X) (diffs G)) *ᵥ dd))
    (hns : projgr x (fitTo x g) lb ub ≠ 0) :
    vec x.length (fitTo x g) ⬝ᵥ (vec x.length (xbarModel lb ub e x g (some (X, G))) - vec x.length x) < 0 := by
  obtain ⟨Mm, ctx, -⟩ := kernel_ctx x.length lb ub e x g X G rfl hX hXG hn hS hY hcurv hθ box floor
  unfold xbarModel
  rw [kernelInput_some lb ub e x g X G hX] at ctx ⊢
  exact ctx.descent hns

/-- the hypotheses on the pairs, from the invariant of the memory: vectors of length `n`, every consecutive pair passed the curvature
test with `eps ≥ 0` -/
theorem hyps_of_chain (n : Nat) (eps : K) (he : 0 ≤ eps) (X G : List (Vec K)) (hX : X.length > 1) (hXG : X.length = G.length)
    (hlX : AllLen n X) (hlG : AllLen n G) (hchain : CurvChain eps X G) :
    (∀ j, j < (diffs X).length → ((diffs X).getD j []).length = n) ∧
    (∀ j, j < (diffs X).length → ((diffs G).getD j []).length = n) ∧
    (∀ j, j < (diffs X).length → vec n ((diffs X).getD j []) ≠ 0 ∧
      0 < vec n ((diffs X).getD j []) ⬝ᵥ vec n ((diffs G).getD j [])) ∧
    0 < thetaOf X G := by
  have hdl : (diffs X).length = X.length - 1 := diffs_length X
  have hdg : (diffs G).length = X.length - 1 := by rw [diffs_length G, hXG]
  have hlen : ∀ L : List (Vec K), AllLen n L → ∀ i, i < L.length → (L.getD i []).length = n := fun L hL i hi => by
    rw [List.getD_eq_getElem _ _ hi]
    exact hL _ (List.getElem_mem hi)
  have hsl := hlen _ (diffs_allLen n X hlX)
  have hyl : ∀ j, j < (diffs X).length → ((diffs G).getD j []).length = n := fun j hj =>
    hlen _ (diffs_allLen n G hlG) j (by omega)
  -- pair `j` is the difference of the members `j + 1` and `j`, which passed the curvature test
  have key : ∀ j, j < (diffs X).length → 0 < vec n ((diffs X).getD j []) ⬝ᵥ vec n ((diffs G).getD j []) := by
    intro j hj
    have hjX : j + 1 < X.length := by omega
    have hk := hchain.curvOk_getD hXG j hjX
    unfold curvOk at hk
    simp only [decide_eq_true_eq] at hk
    rw [← diffs_getD X j hjX, ← diffs_getD G j (hXG ▸ hjX), dot_vec n _ _ (hyl j hj) (hyl j hj),
      dot_vec n _ _ (hsl j hj) (hyl j hj)] at hk
    exact C18.curv_pos eps he _ _ hk
  refine ⟨hsl, hyl, fun j hj => ⟨C10.ne_zero_of_curv (key j hj), key j hj⟩, ?_⟩
  -- `θ = yᵀy / sᵀy` of the newest pair
  have hj : (diffs X).length - 1 < (diffs X).length := by omega
  unfold thetaOf
  rw [getLast?_getD (diffs X) [] (by omega), getLast?_getD (diffs G) [] (by omega)]
  simp only
  rw [hdg, ← hdl, dot_vec n _ _ (hyl _ hj) (hyl _ hj), dot_vec n _ _ (hsl _ hj) (hyl _ hj)]
  exact div_pos (dot_self_pos _ (C10.ne_zero_of_curv ((dotProduct_comm _ _).trans_gt (key _ hj)))) (key _ hj)

/-- **C01 (descent from the invariants of the memory)** the history consists of vectors of the length of `x` and every consecutive
pair passed the curvature test with `eps ≥ 0` (`CurvChain`: C18 `pairs_curvature`). -/
theorem descent_from_memory_invariant (lb ub : Vec K) (e eps : K) (he : 0 ≤ eps) (x g : Vec K) (X G : List (Vec K))
    (hX : X.length > 1) (hXG : X.length = G.length) (hn : 0 < x.length)
    (hlX : AllLen x.length X) (hlG : AllLen x.length G) (hchain : CurvChain eps X G)
    (box : InBoxF lb ub x)
    (floor : ∀ dd : Fin x.length → K, dd ≠ 0 →
      (∀ r, dd r = 0 ∨ dd r = vec x.length (cauchyD0 (breakpoints x (fitTo x g) lb ub) (fitTo x g)) r) →
      e * f2orgOf (kernelInput x g lb ub (some (X, G)) e) ≤
        dd ⬝ᵥ (C10.bfgsChain ((thetaOf X G) • (1 : Matrix (Fin x.length) (Fin x.length) K))
          (pairsOf x.length (diffs X) (diffs G)) *ᵥ dd))
    (hns : projgr x (fitTo x g) lb ub ≠ 0) :
    vec x.length (fitTo x g) ⬝ᵥ (vec x.length (xbarModel lb ub e x g (some (X, G))) - vec x.length x) < 0 := by
  obtain ⟨hS, hY, hcurv, hθ⟩ := hyps_of_chain x.length eps he X G hX hXG hlX hlG hchain
  exact complete_iteration_descent_curv lb ub e x g X G hX hXG hn hS hY hcurv hθ box floor hns

end Lbfgsb.C01

/-! ### Non-vacuity (ℚ): `f(x) = ½|x|²` on `[−2, 2]²`, history `(1,1) → (½,½)` (one pair, `s = y = (−½,−½)`, `θ = 1`), current
point `(½,½)` with gradient `(½,½)`, `eps = 0`, no floor (`e = 0`): every hypothesis of `descent_from_memory_invariant` holds. -/
namespace Lbfgsb.C01
open Lbfgsb Matrix CompactKernel

def cvX : List (Vec ℚ) := [[1, 1], [1 / 2, 1 / 2]]

theorem cv_diffs : diffs cvX = [[-1 / 2, -1 / 2]] := by decide +kernel
theorem cv_theta : thetaOf cvX cvX = 1 := by decide +kernel

example : vec 2 (fitTo ([1 / 2, 1 / 2] : Vec ℚ) [1 / 2, 1 / 2]) ⬝ᵥ
    (vec 2 (xbarModel [-2, -2] [2, 2] 0 [1 / 2, 1 / 2] [1 / 2, 1 / 2] (some (cvX, cvX))) - vec 2 [1 / 2, 1 / 2]) < 0 := by
  apply descent_from_memory_invariant [-2, -2] [2, 2] 0 0 (le_refl _) [1 / 2, 1 / 2] [1 / 2, 1 / 2] cvX cvX
    (by decide) rfl (by decide)
  · unfold AllLen
    decide
  · unfold AllLen
    decide
  · show curvOk _ _ _ _ _ = true ∧ True
    exact ⟨by decide +kernel, trivial⟩
  · simp only [InBoxF]
    decide +kernel
  · intro dd hne _
    rw [zero_mul]
    have hp : ∀ p ∈ pairsOf 2 (diffs cvX) (diffs cvX), p.1 ≠ 0 ∧ 0 < p.1 ⬝ᵥ p.2 := by
      rw [cv_diffs]
      simp only [pairsOf, List.zip_cons_cons, List.zip_nil_right, List.map_cons, List.map_nil, List.mem_singleton, forall_eq]
      decide +kernel
    exact le_of_lt ((C10.bfgs_chain_posdef _ (C10.scaled_identity_spd (thetaOf cvX cvX) (cv_theta ▸ one_pos))
      (pairsOf 2 (diffs cvX) (diffs cvX)) hp).2 dd hne)
  · decide +kernel

end Lbfgsb.C01
