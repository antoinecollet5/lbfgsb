/-
  C08 — the generalized Cauchy point is the FIRST LOCAL MINIMISER of the quadratic model along the projected steepest-descent path
  (Byrd–Lu–Nocedal, section 4). Level F (ordered field, exact arithmetic) about the executable model `cauchy` of
  `lbfgsb/cauchy.py : get_cauchy_point` (Model/Cauchy.lean — the function the correspondence check compares with the Python routine).
  With `B = θI − W M Wᵀ`, `m(z) = gᵀz + ½ zᵀBz`, `P(t) = clip(x − t g)`, `φ(t) = m(P(t) − x)`: `cauchy i` returns `P(t*)` and
  `c = Wᵀ(P(t*) − x)` for the `t* ≥ 0` with `C08.FirstLocalMin φ t*` (so `φ(t*) ≤ φ(0) = 0`). The proof is the invariant `CInv` of the
  breakpoint loop (Proofs/CauchyMin.lean).
  Hypotheses (`MinCtx`): feasible `x`; consistent sizes; the product with the middle matrix (`bmv` through the triangular factors in the
  source, one dense solve in the model) is the exact product with a SYMMETRIC matrix `Mm`; `B` positive definite; and the Fortran
  safeguard `f'' := max(f'', 1e-30·f''₀)` never becomes active (`floor`) — when it does, the routine deliberately stops short of the
  minimiser, and the statement is false by design.
-/
import LbfgsbVerif.Proofs.CauchyMin
import Mathlib.Algebra.Order.Ring.Rat

namespace Lbfgsb.C08
open Lbfgsb Matrix
section
variable {K : Type} [Field K] [LinearOrder K] [IsStrictOrderedRing K]

/-- **C08 (first local minimiser)** under `MinCtx` the point `cauchy` returns is `P(x − tF g)` for a `tF ≥ 0` such that the model value
`φ` along the projected path decreases strictly on `[0, tF]` and `φ(tF) ≤ φ(τ)` on a right neighbourhood of `tF`; the second component is
`c = Wᵀ(x_cp − x)` -/
theorem gcp_first_local_min (i : CauchyIn K) (n k : Nat) (Mm : Matrix (Fin k) (Fin k) K)
    (hk : kOf i = k) (hc : MinCtx i n k Mm (f2orgOf i)) :
    ∃ tF, 0 ≤ tF ∧
      (∀ p q, 0 ≤ p → p < q → q ≤ tF → phi i n k Mm q < phi i n k Mm p) ∧
      (∃ δ, 0 < δ ∧ ∀ τ, tF ≤ τ → τ ≤ tF + δ → phi i n k Mm tF ≤ phi i n k Mm τ) ∧
      (cauchy i).1 = clip (vsub i.x (smul tF i.g)) i.lb i.ub ∧
      vec k (cauchy i).2 =
        (wmat n k i.W)ᵀ *ᵥ (vec n (clip (vsub i.x (smul tF i.g)) i.lb i.ub) - vec n i.x) := by
  obtain ⟨tF, h, hp, -, -, hcv⟩ := cauchy_first_local_min i n k Mm hk hc
  exact ⟨tF, h.1, h.2.1, h.2.2, hp, hcv⟩

/-- **C08 (model value)** the model value at the Cauchy point is never above the value at `x`
(`φ(0) = m(0) = 0`) -/
theorem gcp_model_le (i : CauchyIn K) (n k : Nat) (Mm : Matrix (Fin k) (Fin k) K)
    (hk : kOf i = k) (hc : MinCtx i n k Mm (f2orgOf i)) :
    ∃ tF, (cauchy i).1 = clip (vsub i.x (smul tF i.g)) i.lb i.ub ∧
      phi i n k Mm tF ≤ phi i n k Mm 0 := by
  obtain ⟨tF, h, hp, -⟩ := cauchy_first_local_min i n k Mm hk hc
  refine ⟨tF, hp, ?_⟩
  rcases lt_or_eq_of_le h.1 with h0 | h0
  · exact le_of_lt (h.2.1 0 tF (le_refl _) h0 (le_refl _))
  · rw [← h0]

/-- **C08 (strict decrease)** when the projected steepest-descent direction is not zero (some
variable can move), the Cauchy step is positive and the model value at the Cauchy point is
STRICTLY below the one at `x` -/
theorem gcp_model_lt (i : CauchyIn K) (n k : Nat) (Mm : Matrix (Fin k) (Fin k) K)
    (hk : kOf i = k) (hc : MinCtx i n k Mm (f2orgOf i))
    (hne : vec n (cauchyD0 (breakpoints i.x i.g i.lb i.ub) i.g) ≠ 0) :
    ∃ tF, 0 < tF ∧ (cauchy i).1 = clip (vsub i.x (smul tF i.g)) i.lb i.ub ∧
      phi i n k Mm tF < phi i n k Mm 0 := by
  obtain ⟨tF, h, hp, hpos, -⟩ := cauchy_first_local_min i n k Mm hk hc
  exact ⟨tF, hpos hne, hp, h.2.1 0 tF (le_refl _) (hpos hne) (le_refl _)⟩

theorem phi_zero (i : CauchyIn K) (n k : Nat) (Mm : Matrix (Fin k) (Fin k) K)
    (hbox : InBoxF i.lb i.ub i.x) (hg : i.g.length = i.x.length) : phi i n k Mm 0 = 0 := by
  rw [phi, qmodel, pathAt_zero i hbox hg, sub_self, dotProduct_zero, zero_dotProduct, mul_zero, add_zero]

/-- **C08 (strict decrease, model form)** … i.e. `m(x_cp − x) < 0 = m(0)`: the hypothesis under
which C09 `direction_descent` makes the search direction a descent direction -/
theorem gcp_model_neg (i : CauchyIn K) (n k : Nat) (Mm : Matrix (Fin k) (Fin k) K)
    (hk : kOf i = k) (hc : MinCtx i n k Mm (f2orgOf i))
    (hne : vec n (cauchyD0 (breakpoints i.x i.g i.lb i.ub) i.g) ≠ 0) :
    qmodel (vec n i.g) (bmat i.theta (wmat n k i.W) Mm) (vec n (cauchy i).1 - vec n i.x) < 0 := by
  obtain ⟨tF, -, hp, hlt⟩ := gcp_model_lt i n k Mm hk hc hne
  rw [phi_zero i n k Mm hc.box hc.hgx] at hlt
  rw [hp]
  exact hlt

/-- **C08 (no stored pair)** in the first iteration and after a memory reset (`use_factor = False`:
the middle-matrix product is skipped, `B = θI`) the hypotheses about the middle matrix and positive
definiteness hold by themselves for `θ > 0`. -/
theorem minCtx_nopairs (i : CauchyIn K) (n k : Nat) (hx : i.x.length = n) (hg : i.g.length = n)
    (hW : i.W.length = n) (hrow : ∀ r, r < n → (i.W.getD r []).length = k) (huf : i.useFactor = false)
    (hθ : 0 < i.theta) (hbox : InBoxF i.lb i.ub i.x) (f2org : K)
    (hfloor : ∀ dd : Fin n → K, dd ≠ 0 →
      (∀ r, dd r = 0 ∨ dd r = vec n (cauchyD0 (breakpoints i.x i.g i.lb i.ub) i.g) r) →
      i.epsFsec * f2org ≤ i.theta * (dd ⬝ᵥ dd)) :
    MinCtx i n k (0 : Matrix (Fin k) (Fin k) K) f2org := by
  refine ⟨⟨hx, hg, hW, hrow, transpose_zero, ?_⟩, hbox, ?_, ?_⟩
  · intro v hv
    rw [mv_of_not_useFactor i huf]
    exact ⟨(List.length_map _).trans hv, by rw [vec_zeros, zero_mulVec]⟩
  · intro a ha
    rw [bmat_zero_quad]
    exact mul_pos hθ (dot_self_pos a ha)
  · intro dd hne hpat
    rw [bmat_zero_quad]
    exact hfloor dd hne hpat

/-- the middle matrix `M` is symmetric as soon as the matrix it inverts is — and that one,
`[[−D, Lᵀ], [L, θ SᵀS]]`, is symmetric by construction -/
theorem middle_symm {k : Nat} (Mm Minvm : Matrix (Fin k) (Fin k) K) (hM : Mm * Minvm = 1)
    (hs : Minvmᵀ = Minvm) : Mmᵀ = Mm := by
  have h3 : Minvm * Mmᵀ = 1 := by rw [← hs, ← Matrix.transpose_mul, hM, Matrix.transpose_one]
  -- `Mm` is a left inverse of `Minvm` and `Mmᵀ` a right inverse
  exact (left_inv_eq_right_inv hM h3).symm

end

/-! ### Non-vacuity (over ℚ): x = (0,0), g = (−1, 2), box [−1,1]², B = 4·I (no pairs).
`φ(t) = −5t + 10t²` until the first breakpoint `t = 1/2`; the minimiser `t* = 1/4` lies inside the
first segment: the Cauchy point is `(1/4, −1/2)`. -/

def exIn : CauchyIn ℚ :=
  { x := [0, 0], g := [-1, 2], lb := [-1, -1], ub := [1, 1], theta := 4, W := [ [], [] ], Minv := [],
    useFactor := false, epsFsec := 1 / 10 ^ 30 }

theorem ex_f2org : f2orgOf exIn = 20 := by decide +kernel
theorem ex_d0 : cauchyD0 (breakpoints exIn.x exIn.g exIn.lb exIn.ub) exIn.g = [1, -2] := by decide +kernel

theorem one_le_of_pattern (dd : Fin 2 → ℚ) (hne : dd ≠ 0) (hpat : ∀ r, dd r = 0 ∨ dd r = vec 2 [1, -2] r) :
    1 ≤ dd ⬝ᵥ dd := by
  rw [dotProduct, Fin.sum_univ_two]
  rcases hpat 0 with h0 | h0
  · rcases hpat 1 with h1 | h1
    · exact absurd (funext (Fin.forall_fin_two.2 ⟨h0, h1⟩)) hne
    · rw [h0, h1]
      decide +kernel
  · rcases hpat 1 with h1 | h1
    · rw [h0, h1]
      decide +kernel
    · rw [h0, h1]
      decide +kernel

/-- the floor `20·10⁻³⁰` against `4·|dd|²` -/
theorem ex_ctx : MinCtx exIn 2 0 (0 : Matrix (Fin 0) (Fin 0) ℚ) (f2orgOf exIn) := by
  have hbox : InBoxF exIn.lb exIn.ub exIn.x := by
    simp only [exIn, InBoxF]
    decide +kernel
  refine minCtx_nopairs exIn 2 0 rfl rfl rfl (by decide) rfl (by decide +kernel) hbox _ ?_
  intro dd hne hpat
  rw [ex_d0] at hpat
  rw [ex_f2org]
  exact le_trans (by decide +kernel : exIn.epsFsec * 20 ≤ exIn.theta * 1)
    (mul_le_mul_of_nonneg_left (one_le_of_pattern dd hne hpat) (by decide +kernel))

example : ∃ tF, 0 ≤ tF ∧ (cauchy exIn).1 = clip (vsub exIn.x (smul tF exIn.g)) exIn.lb exIn.ub :=
  let ⟨tF, h0, _, _, hp, _⟩ := gcp_first_local_min exIn 2 0 0 rfl ex_ctx
  ⟨tF, h0, hp⟩

end Lbfgsb.C08
