/-
  The composed kernel model (Model/Kernels.lean: `kernelInput`, `xbarModel = subspaceMin ∘ cauchy`, `concreteOracles`).
  The size and symmetry hypotheses of the kernel theorems hold of it by construction, so that what remains of `MinCtx` /
  `SubCtx` for the complete model are the analytic hypotheses only (feasible `x`, exact solves, positive definiteness,
  inactive floor); in any arithmetic it evaluates the user's functions inside the box only (C02).
-/
import LbfgsbVerif.Props.C02
import LbfgsbVerif.Props.C01Descent
import LbfgsbVerif.Props.KernelsBuild

namespace Lbfgsb
variable {K : Type} [Field K] [LinearOrder K] [IsStrictOrderedRing K]

section U
variable {α : Type} [LinearOrder α] [Add α] [Sub α] [Mul α] [Div α] [Neg α] [OfNat α 0] [OfNat α 1]

theorem xbarModel_inBox (lb ub : Vec α) (hb : BoxOk lb ub) (e : α) (x g : Vec α) (m : Mats α)
    (hx : InBox lb ub x) : InBox lb ub (xbarModel lb ub e x g m) := by
  unfold xbarModel
  obtain ⟨h1, h2, h3, h4, h5⟩ := kernelInput_fields x g lb ub m e
  -- only these fields of the kernel input matter: speak of it as `I`, with `x`, `lb`, `ub` its fields
  generalize kernelInput x g lb ub m e = I at h1 h2 h3 h4 h5 ⊢
  subst h1 h2 h3
  have hg : I.g.length = I.x.length := by rw [h4, fitTo_length]
  have hcp := C08.gcp_in_box I hb hx hg
  have hlen : (cauchy I).1.length = I.x.length := (inBox_length hcp).1.symm.trans (inBox_length hx).1
  exact C09.xbar_in_box (subInOf I) hb hcp (hg.trans hlen.symm) hlen.symm (h5.trans hlen.symm)

section complete
variable {ε : Type} [FloatLike α] [Dcsrch.DcOps α]

/-- **C02 for the complete executable model** (`concreteOracles`: no kernel and no stepper left as an oracle — what
`drv solve` runs natively against the package). Hypotheses: the box is well formed and has the size of `x0` (C02
`getBounds_ok`), the differencing contract (C16 `fd_points_in_box`), the checkpoint's point is the start. -/
theorem evals_in_box_complete (u : User α ε) (c : Cfg α) (e : α) (hbox : BoxOk c.lb c.ub)
    (hn : c.x0.length = c.lb.length)
    (hst : ∀ x f, InBox c.lb c.ub x → ∀ p ∈ u.fdPts x f, InBox c.lb c.ub p)
    (hck : ∀ ck, c.checkpoint = some ck → ck.x = clip c.x0 c.lb c.ub)
    (r : Result α) (s : St α) (h : minimize u (concreteOracles c.lb c.ub e) c = .ok (r, s)) :
    (∀ call ∈ s.sf.log, call.kind ≠ .ftarget → call.kind ≠ .gtol → InBox c.lb c.ub call.arg) ∧
    (∀ cb ∈ s.cbStates, InBox c.lb c.ub cb.x) ∧ InBox c.lb c.ub r.x :=
  C02.evals_in_box u (concreteOracles c.lb c.ub e) c
    ⟨hbox, hn, fun x g m hx => by
        have := xbarModel_inBox c.lb c.ub hbox e x g m hx
        show (xbarModel c.lb c.ub e x g m).length = x.length
        rw [← (inBox_length this).1, ← (inBox_length hx).1], hst, hck⟩ r s h

end complete

end U
open Matrix

/-- the empty-memory twin of `pairs_ctx` (Props/C01Curv): with the freshly constructed matrices (`W = 0` with one column, `θ = 1`,
no factor) `k = 1`, the zero matrix serves as `M`, and nothing is solved -/
theorem nopairs_ctx (lb ub : Vec K) (e : K) (x g : Vec K) (hn : 0 < x.length) (hg : g.length = x.length)
    (box : InBoxF lb ub x)
    (floor : ∀ dd : Fin x.length → K, dd ≠ 0 →
      (∀ r, dd r = 0 ∨ dd r = vec x.length (cauchyD0 (breakpoints x g lb ub) g) r) →
      e * f2orgOf (kernelInput x g lb ub none e) ≤ 1 * (dd ⬝ᵥ dd)) :
    IterCtx (kernelInput x g lb ub none e) x.length 1 (0 : Matrix (Fin 1) (Fin 1) K) := by
  rw [kernelInput_none lb ub e x g hg] at floor ⊢
  let I : CauchyIn K :=
    { x, g, lb, ub, theta := 1, W := x.map fun _ => [0], Minv := [[0]], useFactor := false, epsFsec := e }
  have hW : I.W.length = x.length := List.length_map _
  have hrow : ∀ r, r < x.length → (I.W.getD r []).length = 1 := fun r hr =>
    congrArg List.length (getD_map (fun _ => [0]) x 0 r hr)
  have hbx := inBoxF_iff_inBox.1 box
  have hcp := C08.gcp_in_box I (boxOk_of_inBox hbx) hbx hg
  have hxc : (cauchy I).1.length = x.length := (inBox_length hcp).1.symm.trans (inBox_length hbx).1
  exact ⟨(kOf_eq I (hW.symm ▸ hn)).trans (hrow 0 hn), C08.minCtx_nopairs I x.length 1 rfl hg hW hrow rfl one_pos box _ floor,
    hxc, subspace_spec0 _ x.length 1 ⟨rfl, hg, hxc, hW, hrow, inBoxF_iff_inBox.2 hcp, one_ne_zero, rfl⟩⟩

/-- **C01** the first iteration's direction is a descent direction, in closed form. With an empty memory (first iteration, or after a reset) nothing is
solved, `B = I`: the only hypothesis left is that the Fortran floor on `f''` stays inactive. -/
theorem first_iteration_descent (lb ub : Vec K) (e : K) (x g : Vec K) (n : Nat) (hn : x.length = n) (hn0 : 0 < n)
    (hg : g.length = n) (hbox : InBoxF lb ub x) (hns : projgr x g lb ub ≠ 0)
    (hfloor : ∀ dd : Fin n → K, dd ≠ 0 →
      (∀ r, dd r = 0 ∨ dd r = vec n (cauchyD0 (breakpoints x g lb ub) g) r) →
      e * f2orgOf (kernelInput x g lb ub none e) ≤ 1 * (dd ⬝ᵥ dd)) :
    vec n g ⬝ᵥ (vec n (xbarModel lb ub e x g none) - vec n x) < 0 := by
  subst hn
  have := (nopairs_ctx lb ub e x g hn0 hg hbox hfloor).descent
  unfold xbarModel
  rw [kernelInput_none lb ub e x g hg] at this ⊢
  exact this hns

end Lbfgsb

/-! ### Non-vacuity of `first_iteration_descent` (ℚ): x = (0,0), g = (−1, 2), box [−1,1]², floor constant 10⁻³⁰ -/
namespace Lbfgsb
open Matrix

theorem ex_f2org0 : f2orgOf (kernelInput ([0, 0] : Vec ℚ) [-1, 2] [-1, -1] [1, 1] none (1 / 10 ^ 30)) = 5 := by
  decide +kernel

example : vec 2 ([-1, 2] : Vec ℚ) ⬝ᵥ
    (vec 2 (xbarModel [-1, -1] [1, 1] (1 / 10 ^ 30) ([0, 0] : Vec ℚ) [-1, 2] none) - vec 2 ([0, 0] : Vec ℚ)) < 0 := by
  have hbox : InBoxF ([-1, -1] : Vec ℚ) [1, 1] [0, 0] := by
    simp only [InBoxF]
    decide +kernel
  apply first_iteration_descent _ _ _ _ _ 2 rfl (by decide) rfl hbox (by decide +kernel)
  intro dd hne hpat
  rw [show cauchyD0 (breakpoints ([0, 0] : Vec ℚ) [-1, 2] [-1, -1] [1, 1]) [-1, 2] = [1, -2] from C08.ex_d0] at hpat
  rw [ex_f2org0, one_mul]
  exact le_trans (by decide +kernel) (C08.one_le_of_pattern dd hne hpat)

end Lbfgsb
