/-
  C11 — the largest feasible step does not depend on the units of the variables nor on where their origin is put: with `x`, `d`, `lb`,
  `ub` all multiplied by `b > 0` (the objective's units do not enter), or with `x`, `lb`, `ub` translated by one constant,
  `max_allowed_steplength` is unchanged — the ratios `(u − x)/d`, `(l − x)/d` are invariant and so are the tests `d = 0`, `d > 0`.
-/
import LbfgsbVerif.Proofs.VecMap

namespace Lbfgsb.C11
open Lbfgsb
variable {K : Type} [Field K] [LinearOrder K] [IsStrictOrderedRing K]
attribute [local instance] fieldFloatLike

/-- **C11 (units)** — `x`, `d`, `lb`, `ub` all multiplied by `b > 0`: the largest feasible step is unchanged -/
theorem maxAllowedStep_units (b : K) (hb : 0 < b) (x d lb ub : Vec K) (maxStep : K) (nit : Nat) :
    maxAllowedStep (smul b x) (smul b d) (smul b lb) (smul b ub) maxStep nit = maxAllowedStep x d lb ub maxStep nit :=
  maxAllowedStep_map (ratioInv_scale hb) x d lb ub maxStep nit

example : maxAllowedStep (smul 5 [0, 0]) (smul 5 [1, -2]) (smul 5 [-1, -1]) (smul 5 [1, 1]) (100 : ℚ) 3 = 1 / 2 :=
  (maxAllowedStep_units 5 (by decide +kernel) _ _ _ _ _ _).trans (by decide +kernel)

/-- **C11 (origin)** — the same after a translation of the variables and of the box -/
theorem maxAllowedStep_shift (c : K) (x d lb ub : Vec K) (maxStep : K) (nit : Nat) :
    maxAllowedStep (x.map (· + c)) d (lb.map (· + c)) (ub.map (· + c)) maxStep nit = maxAllowedStep x d lb ub maxStep nit := by
  simpa only [List.map_id] using maxAllowedStep_map (ratioInv_shift c) x d lb ub maxStep nit

example : maxAllowedStep ([0, 0].map (· + 7)) [1, -2] ([-1, -1].map (· + 7)) ([1, 1].map (· + 7)) (100 : ℚ) 3 = 1 / 2 :=
  (maxAllowedStep_shift 7 _ _ _ _ _ _).trans (by decide +kernel)

end Lbfgsb.C11
