/-
  C18 — what `hess_inv` computes. SciPy's `LbfgsInvHessProduct._matvec` is the two-loop recursion: a backward sweep over the pairs
  (newest to oldest) storing the `α_i`, then a forward sweep; it never forms a matrix. Here: the two sweeps return the product with
  the dense matrix of the pair-by-pair inverse BFGS recursion (any field), hence an SPD operator for pairs with `s·y > 0`.
  `invBfgs`, `invChain` sit in the ordered-field section of Props/C18.lean; the identity needs no order, so the same two expressions
  are declared here over any field as `invUpd`, `chainF` and reasoned about under these names; `invBfgs_eq_invUpd` (by `rfl`) and
  `chainF_eq_invChain` pass between them. The harness compares `hess_inv.todense()` of real results with an exact rational
  evaluation of the same recursion (harness/props/c18.py).
-/
import LbfgsbVerif.Props.C18

namespace Lbfgsb.C18
open Matrix
variable {n : Type} [Fintype n] [DecidableEq n]
variable {K : Type} [Field K]

noncomputable def invUpd (H : Matrix n n K) (s y : n → K) : Matrix n n K :=
  (1 - (1 / (y ⬝ᵥ s)) • vecMulVec s y) * H * (1 - (1 / (y ⬝ᵥ s)) • vecMulVec y s) + (1 / (y ⬝ᵥ s)) • vecMulVec s s

noncomputable def chainF (H : Matrix n n K) : List ((n → K) × (n → K)) → Matrix n n K
  | [] => H
  | p :: ps => chainF (invUpd H p.1 p.2) ps

theorem chainF_append (H : Matrix n n K) (ps : List ((n → K) × (n → K))) (p : (n → K) × (n → K)) :
    chainF H (ps ++ [p]) = invUpd (chainF H ps) p.1 p.2 := by
  induction ps generalizing H with
  | nil => rfl
  | cons q qs ih =>
    simp only [List.cons_append, chainF]
    exact ih _

/-- first sweep, newest pair first: returns the final `q` and the `α`s (newest first) -/
noncomputable def sweep1 : List ((n → K) × (n → K)) → (n → K) → (n → K) × List K
  | [], q => (q, [])
  | p :: rest, q =>
    let a := (1 / (p.2 ⬝ᵥ p.1)) * (p.1 ⬝ᵥ q)
    let r := sweep1 rest (q - a • p.2)
    (r.1, a :: r.2)

/-- second sweep, oldest pair first, each with its `α` -/
noncomputable def sweep2 : List (((n → K) × (n → K)) × K) → (n → K) → (n → K)
  | [], r => r
  | pa :: rest, r => sweep2 rest (r + (pa.2 - (1 / (pa.1.2 ⬝ᵥ pa.1.1)) * (pa.1.2 ⬝ᵥ r)) • pa.1.1)

/-- `LbfgsInvHessProduct._matvec` (pairs oldest first, as SciPy stores them; `H` the initial
matrix, the identity in SciPy) -/
noncomputable def twoLoop (H : Matrix n n K) (ps : List ((n → K) × (n → K))) (x : n → K) : n → K :=
  let nf := ps.reverse
  let r := sweep1 nf x
  sweep2 ((nf.zip r.2).reverse) (H *ᵥ r.1)

theorem sweep2_append (l : List (((n → K) × (n → K)) × K)) (pa : ((n → K) × (n → K)) × K) (r : n → K) :
    sweep2 (l ++ [pa]) r =
      sweep2 l r + (pa.2 - (1 / (pa.1.2 ⬝ᵥ pa.1.1)) * (pa.1.2 ⬝ᵥ sweep2 l r)) • pa.1.1 := by
  induction l generalizing r with
  | nil => rfl
  | cons q qs ih =>
    simp only [List.cons_append, sweep2]
    exact ih _

theorem invUpd_mulVec (H : Matrix n n K) (s y x : n → K) :
    invUpd H s y *ᵥ x =
      H *ᵥ (x - ((1 / (y ⬝ᵥ s)) * (s ⬝ᵥ x)) • y) +
        ((1 / (y ⬝ᵥ s)) * (s ⬝ᵥ x) -
          (1 / (y ⬝ᵥ s)) * (y ⬝ᵥ (H *ᵥ (x - ((1 / (y ⬝ᵥ s)) * (s ⬝ᵥ x)) • y)))) • s :=
  rankOne_sandwich_mulVec _ H s y x

/-- the curvature is written `s ⬝ᵥ y` in every hypothesis, as `bfgs` has it; `invUpd` divides by `y ⬝ᵥ s` (the fixed definition), and
the two are identified here -/
theorem invUpd_secant (H : Matrix n n K) (s y : n → K) (h : s ⬝ᵥ y ≠ 0) : invUpd H s y *ᵥ y = s := by
  have e : 1 / (y ⬝ᵥ s) * (s ⬝ᵥ y) = 1 := by
    rw [dotProduct_comm y s, one_div_mul_cancel h]
  rw [invUpd_mulVec, e, one_smul, sub_self, mulVec_zero, dotProduct_zero, mul_zero, sub_zero, zero_add, one_smul]

/-- **C18 (two-loop recursion)** the operator SciPy applies is the dense matrix of the pair-by-pair
inverse BFGS recursion. -/
theorem two_loop_eq_chain (H : Matrix n n K) (ps : List ((n → K) × (n → K))) (x : n → K) :
    twoLoop H ps x = chainF H ps *ᵥ x := by
  unfold twoLoop
  dsimp only
  have key : ∀ (nf : List ((n → K) × (n → K))) (x : n → K),
      sweep2 ((nf.zip (sweep1 nf x).2).reverse) (H *ᵥ (sweep1 nf x).1) = chainF H nf.reverse *ᵥ x := by
    intro nf
    induction nf with
    | nil => exact fun x => rfl
    | cons p rest ih =>
      intro x
      simp only [sweep1, List.zip_cons_cons, List.reverse_cons]
      rw [sweep2_append, ih, chainF_append, invUpd_mulVec]
  have := key ps.reverse x
  rw [List.reverse_reverse] at this
  exact this

section ordered
variable {K : Type} [Field K] [LinearOrder K] [IsStrictOrderedRing K]

theorem invBfgs_eq_invUpd (H : Matrix n n K) (s y : n → K) : invBfgs H s y = invUpd H s y := rfl

theorem chainF_eq_invChain (H : Matrix n n K) (ps : List ((n → K) × (n → K))) : chainF H ps = invChain H ps := by
  induction ps generalizing H with
  | nil => rfl
  | cons p ps ih =>
    simp only [chainF, invChain]
    exact ih _

/-- **C18 (the operator is SPD)** for pairs with `s·y > 0` and an SPD initial matrix. -/
theorem two_loop_spd (H : Matrix n n K) (hH : C10.SPD H) (ps : List ((n → K) × (n → K)))
    (hp : ∀ p ∈ ps, 0 < p.1 ⬝ᵥ p.2) :
    ∃ A : Matrix n n K, C10.SPD A ∧ ∀ x, twoLoop H ps x = A *ᵥ x :=
  ⟨invChain H ps, inv_bfgs_chain_posdef H hH ps hp, fun x => by rw [two_loop_eq_chain, chainF_eq_invChain]⟩

end ordered

end Lbfgsb.C18
