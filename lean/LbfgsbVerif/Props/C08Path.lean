/-
  C08 — path theorem (ordered field): for every memory (every `W`, `M⁻¹`, `theta`, every answer of the inner solves), every feasible
  `x`, every gradient and every box, the point the model `cauchy` returns is `P(x − t g)` for some `t ≥ 0`. Proved through the path
  invariant of the breakpoint loop (Proofs/CauchyPath.lean) and the order theorems of Props/C08.lean. Which `t` is chosen is
  Props/C08Min.lean, under hypotheses on the model this theorem does not need.
-/
import LbfgsbVerif.Proofs.CauchyPath
import Mathlib.Algebra.Order.Field.Rat

namespace Lbfgsb.C08
open Lbfgsb
variable {K : Type} [Field K] [LinearOrder K] [IsStrictOrderedRing K]

/-- **C08** the generalized Cauchy point lies on the projected path. -/
theorem gcp_on_projected_path (i : CauchyIn K) (hx : InBoxF i.lb i.ub i.x) (hg : i.g.length = i.x.length) :
    ∃ t, 0 ≤ t ∧ (cauchy i).1 = clip (vsub i.x (smul t i.g)) i.lb i.ub := by
  rw [cauchy_eq]
  split
  · exact ⟨0, le_rfl, (pathAt_zero i hx hg).symm⟩
  · exact loop_on_path i hx hg _ _ rfl rfl rfl

/-! ### Non-vacuity (ℚ, no memory): x = (0, 0) in [−1,1]×[−1,2], g = (−4, −1), theta = 1: the first
variable reaches its bound at t = 1/4, the minimiser along the second segment is at t = 1 -/
def iQ : CauchyIn ℚ :=
  { x := [0, 0], g := [-4, -1], lb := [-1, -1], ub := [1, 2], theta := 1, W := [ [], [] ],
    Minv := [], useFactor := false, epsFsec := 0 }

/-- the hypotheses are met by a concrete input, hence its Cauchy point is `P(x − t g)` for some `t ≥ 0`
(here `t = 1`: `P((0,0) + 1·(4,1)) = (1, 1)`; the merge sort inside `cauchy` does not reduce by `decide`) -/
example : ∃ t, 0 ≤ t ∧ (cauchy iQ).1 = clip (vsub iQ.x (smul t iQ.g)) iQ.lb iQ.ub := by
  have hbox : InBoxF iQ.lb iQ.ub iQ.x := by
    simp only [iQ, InBoxF]
    decide +kernel
  exact gcp_on_projected_path iQ hbox rfl
example : clip (vsub ([0, 0] : Vec ℚ) (smul 1 [-4, -1])) [-1, -1] [1, 2] = [1, 1] := by decide +kernel

end Lbfgsb.C08
