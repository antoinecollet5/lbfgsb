/-
  C10 — the product with the middle matrix through the triangular factors (`bfgsmats.py : form_invMfactors`, `bmv`), any field.
  The package never inverts `M⁻¹ = [[−D, Lᵀ], [L, θ SᵀS]]`: it forms a lower and an upper triangular factor from `√D`, `1/√D`, `L`
  and the Cholesky factor `J` of `T = θ SᵀS + L D⁻¹ Lᵀ` (Byrd–Nocedal–Schnabel, algorithm 3.2), and `bmv` solves with the two in turn:
  this is the hypothesis `hmv`/`hmvc` of the C08/C09 theorems for the code's own way of computing the product.
  Outside: that `scipy.linalg.cholesky` / `solve_triangular` are exact (they round), and that `T` is positive definite so that `J` exists.
-/
import Mathlib.Data.Matrix.Block

namespace Lbfgsb.C10
open Matrix
variable {K : Type} [Field K] {m : Nat}

/-- **C10 (factors)** `[[√D, 0], [−L/√D, J]] · [[−√D, Lᵀ/√D], [0, Jᵀ]] = [[−D, Lᵀ], [L, θ SᵀS]]` -/
theorem invM_factorisation (D sqD sqI L J STS : Matrix (Fin m) (Fin m) K) (θ : K)
    (h1 : sqD * sqD = D) (h2 : sqD * sqI = 1) (h3 : sqI * sqD = 1)
    (hJ : J * Jᵀ = θ • STS + L * (sqI * sqI) * Lᵀ) :
    fromBlocks sqD 0 (-(L * sqI)) J * fromBlocks (-sqD) (sqI * Lᵀ) 0 Jᵀ =
      fromBlocks (-D) Lᵀ L (θ • STS) := by
  rw [fromBlocks_multiply]
  congr 1
  · rw [Matrix.mul_neg, h1, Matrix.zero_mul, add_zero]
  · rw [← Matrix.mul_assoc, h2, Matrix.one_mul, Matrix.zero_mul, add_zero]
  · rw [Matrix.neg_mul, Matrix.mul_neg, neg_neg, Matrix.mul_assoc, h3, Matrix.mul_one, Matrix.mul_zero, add_zero]
  · rw [hJ, Matrix.neg_mul, ← Matrix.mul_assoc, Matrix.mul_assoc L sqI sqI, neg_add_cancel_comm_assoc]

/-- **C10 (`bmv`)** two exact triangular solves with the factors return the product with the
inverse of the factored matrix -/
theorem bmv_is_product {ι : Type} [Fintype ι] [DecidableEq ι] (F1 F2 Minv M : Matrix ι ι K)
    (hF : F1 * F2 = Minv) (hM : M * Minv = 1) (v w p : ι → K) (hs1 : F1 *ᵥ w = v) (hs2 : F2 *ᵥ p = w) :
    p = M *ᵥ v := by
  have : Minv *ᵥ p = v := by rw [← hF, ← mulVec_mulVec, hs2, hs1]
  rw [← this, mulVec_mulVec, hM, one_mulVec]

end Lbfgsb.C10
