/-
  C01 — run level: every line search of a fresh run of the COMPLETE model (no update function, no scaler) starts along a
  descent direction, as long as the Fortran floor on `f''` is inactive.

  `DInvS` is what the iteration-level theorem (`descent_from_memory_invariant`, Props/C01Curv) needs of a loop state; ANY pass of
  the loop body keeps it (accepted or rejected pair, failed line search with memory reset, stop tests, callbacks).
  `run_direction_descent`: at every loop-head state where the loop goes on (projected gradient above `gtol ≥ 0`), the direction
  `x̄ − x` handed to the line search satisfies `gᵀ(x̄ − x) < 0`.
-/
import LbfgsbVerif.Props.C01Curv
import LbfgsbVerif.Props.C11
import LbfgsbVerif.Props.C06Inv

namespace Lbfgsb.C01
open Matrix C06
variable {K ε δ : Type} [Field K] [LinearOrder K]
attribute [local instance] fieldFloatLike

structure DInvS (u : User K ε) (c : Cfg K) (s : St K) : Prop where
  xlen : s.x.length = c.lb.length
  glen : s.g.length = s.x.length
  lenX : AllLen s.x.length s.X
  lenG : AllLen s.x.length s.G
  hlen : s.X.length = s.G.length
  pos : s.X ≠ []
  chain : CurvChain c.epsSY s.X s.G
  mats : s.mats = if s.X.length > 1 then some (s.X, s.G) else none
  coh : Coh u.toSFUser s.sf
  sf_mode : s.sf.mode = c.mode
  sf_lb : s.sf.lb = c.lb
  sf_ub : s.sf.ub = c.ub
  sf_scale : s.sf.scale = 1
  inbox : clip s.x c.lb c.ub = s.x
  ftarget : s.ftarget = none

theorem DInvS.env {u : User K ε} {c : Cfg K} {s : St K} (h : DInvS u c s) : C06.EnvOk u c s.x s.g s.sf :=
  ⟨h.coh, h.sf_mode, h.sf_lb, h.sf_ub, h.sf_scale, h.xlen, h.glen, h.inbox⟩

theorem DInvS.xpos {u : User K ε} {c : Cfg K} {s : St K} (h : DInvS u c s) (hn : 0 < c.lb.length) : 0 < s.x.length :=
  h.xlen ▸ hn

theorem DInvS.frame {u : User K ε} {c : Cfg K} {s : St K} (h : DInvS u c s) (lg : List (Call K))
    (cbs : List (Result K)) (t : Msg) (su : Bool) (w n : Nat) (ol : List (OReq K)) :
    DInvS u c { s with sf := { s.sf with log := lg }, cbStates := cbs, task := t, success := su, warnflag := w,
                       nit := n, olog := ol } :=
  ⟨h.xlen, h.glen, h.lenX, h.lenG, h.hlen, h.pos, h.chain, h.mats, h.coh, h.sf_mode, h.sf_lb, h.sf_ub, h.sf_scale,
    h.inbox, h.ftarget⟩

theorem DInvS.move {u : User K ε} {c : Cfg K} {s : St K} (h : DInvS u c s) {x g : Vec K} {sf : SF K} (f : K)
    (he : C06.EnvOk u c x g sf) (hl : x.length = s.x.length) :
    DInvS u c { s with x := x, f := f, g := g, sf := sf } :=
  ⟨he.xlen, he.glen, hl ▸ h.lenX, hl ▸ h.lenG, h.hlen, h.pos, h.chain, h.mats, he.coh,
    he.sf_mode, he.sf_lb, he.sf_ub, he.sf_scale, he.inbox, h.ftarget⟩

theorem DInvS.reset {u : User K ε} {c : Cfg K} {s : St K} (h : DInvS u c s) :
    DInvS u c { s with X := [lastD s.X], G := [lastD s.G], mats := none } :=
  ⟨h.xlen, h.glen, allLen_cons.2 ⟨h.lenX _ (lastD_mem _ h.pos), allLen_nil _⟩,
    allLen_cons.2 ⟨h.lenG _ (lastD_mem _ (ne_nil_of_length_eq h.hlen h.pos)), allLen_nil _⟩, rfl, List.cons_ne_nil _ _,
    trivial, rfl, h.coh, h.sf_mode, h.sf_lb, h.sf_ub, h.sf_scale, h.inbox, h.ftarget⟩

/-- the Fortran floor `f'' := max(f'', eps·f''₀)` of the Cauchy search stays inactive at this state: for every direction met
along the search (the initial one with some components zeroed) the curvature of the model is at least `eps·f''₀` -/
def FloorOK (c : Cfg K) (e : K) (s : St K) : Prop :=
  ∀ dd : Fin s.x.length → K, dd ≠ 0 →
    (∀ r, dd r = 0 ∨ dd r = vec s.x.length (cauchyD0 (breakpoints s.x s.g c.lb c.ub) s.g) r) →
    e * f2orgOf (kernelInput s.x s.g c.lb c.ub s.mats e) ≤
      dd ⬝ᵥ ((if s.X.length > 1 then
          C10.bfgsChain ((thetaOf s.X s.G) • (1 : Matrix (Fin s.x.length) (Fin s.x.length) K))
            (CompactKernel.pairsOf s.x.length (diffs s.X) (diffs s.G))
        else 1) *ᵥ dd)

theorem DInvS.inBoxF {u : User K ε} {c : Cfg K} {s : St K} (hi : DInvS u c s) (hbx : BoxOk c.lb c.ub) :
    InBoxF c.lb c.ub s.x := by
  apply inBoxF_iff_inBox.2
  rw [← hi.inbox]
  exact clip_inBox hbx s.x hi.xlen

theorem FloorOK.pairs {u : User K ε} {c : Cfg K} {e : K} {s : St K} (hfl : FloorOK c e s) (hi : DInvS u c s)
    (hX : s.X.length > 1) (dd : Fin s.x.length → K) (hne : dd ≠ 0)
    (hpat : ∀ r, dd r = 0 ∨
      dd r = vec s.x.length (cauchyD0 (breakpoints s.x (fitTo s.x s.g) c.lb c.ub) (fitTo s.x s.g)) r) :
    e * f2orgOf (kernelInput s.x s.g c.lb c.ub (some (s.X, s.G)) e) ≤
      dd ⬝ᵥ (C10.bfgsChain ((thetaOf s.X s.G) • (1 : Matrix (Fin s.x.length) (Fin s.x.length) K))
        (CompactKernel.pairsOf s.x.length (diffs s.X) (diffs s.G)) *ᵥ dd) := by
  rw [fitTo_eq s.x s.g hi.glen] at hpat
  have := hfl dd hne hpat
  rw [if_pos hX, hi.mats, if_pos hX] at this
  exact this

/-- `FloorOK` at a state with an empty memory, in the form `first_iteration_descent` and `nopairs_ctx` take it in -/
theorem FloorOK.nopairs {u : User K ε} {c : Cfg K} {e : K} {s : St K} (hfl : FloorOK c e s)
    (hi : DInvS u c s) (hX : ¬ s.X.length > 1) (dd : Fin s.x.length → K) (hne : dd ≠ 0)
    (hpat : ∀ r, dd r = 0 ∨ dd r = vec s.x.length (cauchyD0 (breakpoints s.x s.g c.lb c.ub) s.g) r) :
    e * f2orgOf (kernelInput s.x s.g c.lb c.ub none e) ≤ 1 * (dd ⬝ᵥ dd) := by
  have := hfl dd hne hpat
  rw [if_neg hX, hi.mats, if_neg hX, one_mulVec] at this
  rw [one_mul]
  exact this

-- up to here `K` is a field with a linear order that nothing ties to the arithmetic; from here on, an ordered field
variable [IsStrictOrderedRing K]

theorem doCallback_frame (u : User K ε) (c : Cfg K) (s s2 : St K) (h : doCallback u c s = .ok s2) :
    ∃ lg cbs t su, s2 = { s with sf := { s.sf with log := lg }, cbStates := cbs, task := t, success := su } := by
  rcases doCallback_ok h with ⟨-, rfl⟩ | ⟨b, -, -, -, rfl⟩
  · exact ⟨s2.sf.log, s2.cbStates, s2.task, s2.success, rfl⟩
  · exact ⟨_, _, _, _, rfl⟩

theorem DInvS.memStep {u : User K ε} {c : Cfg K} {s : St K} (h : DInvS u c s) (hU : c.hasUpdate = false)
    (hm : 1 ≤ c.maxcor) : DInvS u c (memStep c s) := by
  cases hk : curvOk s.x s.g (lastD s.X) (lastD s.G) c.epsSY
  · rw [memStep_reject c s hk, hU]
    exact h
  · obtain ⟨k, hne, -, hl, hcurv, e⟩ := memStep_push c s hm h.hlen h.pos hk
    have hlen : (s.X.drop k ++ [s.x]).length = (s.G.drop k ++ [s.g]).length := by
      rw [List.length_append, List.length_append, hl]
      rfl
    rw [e]
    exact ⟨h.xlen, h.glen, allLen_append_one (allLen_drop h.lenX k) rfl, allLen_append_one (allLen_drop h.lenG k) h.glen,
      hlen, List.append_ne_nil_of_right_ne_nil _ (List.cons_ne_nil _ _),
      curvChain_append c.epsSY _ _ s.x s.g hl (curvChain_drop _ _ _ h.chain k) hne hcurv, rfl,
      h.coh, h.sf_mode, h.sf_lb, h.sf_ub, h.sf_scale, h.inbox, h.ftarget⟩

theorem iterBody_dinv (u : User K ε) (o : Oracles K δ) (c : Cfg K) (hU : c.hasUpdate = false) (hm : 1 ≤ c.maxcor)
    (hbox : BoxOk c.lb c.ub) (hgl : GradLen u c) (s s' : St K) (flow : Flow) (hi : DInvS u c s)
    (hxb : (o.xbar s.x s.g s.mats).length = s.x.length)
    (h : iterBody u o c s = .ok (s', flow)) : DInvS u c s' := by
  have hd : (vsub (o.xbar s.x s.g s.mats) s.x).length = s.x.length := by rw [vsub_length, hxb, Nat.min_self]
  refine iterBody_rule h ?ls ?move ?upd ?flags ?reset ?mem ?cb ?nit
  case ls =>
    exact fun sfL _ olog hls => (hi.move s.f (hi.env.afterLS hls) rfl).frame sfL.log s.cbStates s.task s.success
      s.warnflag s.nit olog
  case move =>
    intro sfL stp olog sf f g hls he _
    obtain ⟨env1, -, hl⟩ := hi.env.afterTrial hbox hgl hd hls he
    exact (hi.move f env1 hl).frame sf.log s.cbStates s.task s.success s.warnflag s.nit olog
  case upd => exact fun _ _ _ hT => absurd (hU.symm.trans hT) (by decide)
  case flags => exact fun t tk su w it => it.frame t.sf.log t.cbStates tk su w t.nit t.olog
  case reset => exact fun _ it => it.reset
  case mem => exact fun _ it => it.memStep hU hm
  case cb => exact fun t _ _ _ _ it => it.frame _ _ t.task t.success t.warnflag t.nit t.olog
  case nit => exact fun t it => it.frame t.sf.log t.cbStates t.task t.success t.warnflag _ t.olog

theorem fresh_dinv (u : User K ε) (c : Cfg K) (a : K) (hck : c.checkpoint = none) (hS : c.hasScaler = false)
    (hU : c.hasUpdate = false) (hT : c.ftarget = none) (hg : c.gtol = .const a) (hbox : BoxOk c.lb c.ub)
    (hx0 : c.x0.length = c.lb.length) (hgl : GradLen u c) (i : Init K) (s : St K)
    (hi : initEval u c = .ok i) (hp : prepare u c i = .ok s) : DInvS u c s := by
  obtain ⟨⟨X', G', hr⟩, hcoh, hglen, hxlen⟩ := fresh_rinv u c a hck hS hU hT hg hbox hx0 hgl i s hi hp
  obtain ⟨hiX, hiG⟩ := initEval_fresh u c i hck hi
  obtain ⟨hX, hG, -⟩ := prepare_fresh_any u c i s hiX hiG hp
  exact ⟨hxlen, hglen, hX ▸ allLen_cons.2 ⟨rfl, allLen_nil _⟩, hG ▸ allLen_cons.2 ⟨hglen, allLen_nil _⟩,
    hX ▸ hG ▸ rfl, hX ▸ List.cons_ne_nil _ _, hX ▸ hG ▸ trivial, hr.mats, hcoh, hr.sf_mode, hr.sf_lb, hr.sf_ub,
    hr.sf_scale, hr.inbox, hr.ftarget⟩

/-- loop-head states reached from `s0` (any pass of the loop body that goes on) -/
inductive Reach (u : User K ε) (o : Oracles K δ) (c : Cfg K) (s0 : St K) : St K → Prop
  | refl : Reach u o c s0 s0
  | step {s s' : St K} : Reach u o c s0 s → guard c s = true → iterBody u o c s = .ok (s', .next) → Reach u o c s0 s'

theorem reach_dinv (u : User K ε) (o : Oracles K δ) (c : Cfg K) (hU : c.hasUpdate = false) (hm : 1 ≤ c.maxcor)
    (hbox : BoxOk c.lb c.ub) (hgl : GradLen u c) (hxb : XbarLen o c) (s0 s : St K) (h0 : DInvS u c s0)
    (hr : Reach u o c s0 s) : DInvS u c s := by
  induction hr with
  | refl => exact h0
  | step _ _ hb ih => exact iterBody_dinv u o c hU hm hbox hgl _ _ _ ih (hxb _ _ _ ih.xlen ih.inbox) hb

theorem fresh_reach_dinv [Dcsrch.DcOps K] (u : User K ε) (c : Cfg K) (e a : K)
    (hck : c.checkpoint = none) (hS : c.hasScaler = false) (hU : c.hasUpdate = false) (hT : c.ftarget = none)
    (hg : c.gtol = .const a) (hm : 1 ≤ c.maxcor) (hbox : BoxOk c.lb c.ub) (hx0 : c.x0.length = c.lb.length)
    (hgl : GradLen u c) (i0 : Init K) (s0 s : St K) (hi0 : initEval u c = .ok i0) (hp0 : prepare u c i0 = .ok s0)
    (hr : Reach u (concreteOracles c.lb c.ub e) c s0 s) : DInvS u c s :=
  reach_dinv u _ c hU hm hbox hgl (xbarLen_concrete c e hbox) s0 s
    (fresh_dinv u c a hck hS hU hT hg hbox hx0 hgl i0 s0 hi0 hp0) hr

theorem mainLoop_of_reach' (u : User K ε) (o : Oracles K δ) (c : Cfg K) (s0 s : St K)
    (hr : Reach u o c s0 s) : ∃ k, ∀ fuel, mainLoop u o c (fuel + k) s0 = mainLoop u o c fuel s := by
  induction hr with
  | refl => exact ⟨0, fun _ => rfl⟩
  | step _ hg hb ih =>
    obtain ⟨k, hk⟩ := ih
    exact ⟨k + 1, fun fuel => by rw [← Nat.add_assoc, Nat.add_right_comm, hk, mainLoop_next fuel hg hb]⟩

theorem iterBody_gtol (u : User K ε) (o : Oracles K δ) (c : Cfg K) (s s' : St K) (flow : Flow)
    (h : iterBody u o c s = .ok (s', flow)) : s'.gtol = s.gtol :=
  (iterBody_frame h).1

theorem reach_gtol (u : User K ε) (o : Oracles K δ) (c : Cfg K) (s0 s : St K) (hr : Reach u o c s0 s) : s.gtol = s0.gtol := by
  induction hr with
  | refl => rfl
  | step _ _ hb ih => rw [iterBody_gtol u o c _ _ _ hb, ih]

theorem floorOK_zero (c : Cfg K) (s : St K) (hX : ¬ s.X.length > 1) : FloorOK c 0 s := by
  intro dd _ _
  rw [zero_mul, if_neg hX, one_mulVec]
  exact dot_self_nonneg dd

/-- **C01 (run level)** at a loop-head state satisfying the invariant, when the loop goes on (`gtol < |proj g|`, `gtol ≥ 0`) and the
floor is inactive, the direction the complete model hands to the line search is a descent direction -/
theorem state_direction_descent [Dcsrch.DcOps K] (u : User K ε) (c : Cfg K) (e : K) (s : St K) (hi : DInvS u c s)
    (hbx : BoxOk c.lb c.ub) (hn : 0 < c.lb.length) (he : 0 ≤ c.epsSY) (hgt : 0 ≤ s.gtol) (hguard : guard c s = true)
    (hfl : FloorOK c e s) :
    vec s.x.length s.g ⬝ᵥ
      (vec s.x.length ((concreteOracles c.lb c.ub e).xbar s.x s.g s.mats) - vec s.x.length s.x) < 0 := by
  have hns : projgr s.x s.g c.lb c.ub ≠ 0 := ne_of_gt (lt_of_le_of_lt hgt (guard_iff.1 hguard).1)
  have hfit : fitTo s.x s.g = s.g := fitTo_eq s.x s.g hi.glen
  have hbox : InBoxF c.lb c.ub s.x := hi.inBoxF hbx
  show vec s.x.length s.g ⬝ᵥ (vec s.x.length (xbarModel c.lb c.ub e s.x s.g s.mats) - vec s.x.length s.x) < 0
  by_cases hX : s.X.length > 1
  · rw [hi.mats, if_pos hX]
    have := descent_from_memory_invariant c.lb c.ub e c.epsSY he s.x s.g s.X s.G hX hi.hlen (hi.xpos hn)
      hi.lenX hi.lenG hi.chain hbox (hfl.pairs hi hX) (hfit.symm ▸ hns)
    rw [hfit] at this
    exact this
  · rw [hi.mats, if_neg hX]
    exact first_iteration_descent c.lb c.ub e s.x s.g s.x.length rfl (hi.xpos hn) hi.glen hbox hns
      (hfl.nopairs hi hX)

/-- **C01 (every line search of a fresh run of the complete model starts along a descent direction)** — fresh run, no scaler, no
update function, no target, constant `gtol`; well-formed box of the size of `x0`; gradients of the length of their argument;
`maxcor ≥ 1`, `eps ≥ 0`, `gtol ≥ 0`. At every loop-head state the run reaches, if the loop goes on there (`gtol < |proj g|`) and the Fortran
floor is inactive, `gᵀ(x̄ − x) < 0` for the point `x̄` the composed kernel models return. -/
theorem run_direction_descent [Dcsrch.DcOps K] (u : User K ε) (c : Cfg K) (e a : K)
    (hck : c.checkpoint = none) (hS : c.hasScaler = false) (hU : c.hasUpdate = false) (hT : c.ftarget = none)
    (hg : c.gtol = .const a) (hm : 1 ≤ c.maxcor) (hbox : BoxOk c.lb c.ub) (hx0 : c.x0.length = c.lb.length)
    (hn : 0 < c.lb.length) (he : 0 ≤ c.epsSY) (hgl : GradLen u c)
    (i0 : Init K) (s0 s : St K) (hi0 : initEval u c = .ok i0) (hp0 : prepare u c i0 = .ok s0)
    (hr : Reach u (concreteOracles c.lb c.ub e) c s0 s)
    (ha : 0 ≤ a) (hguard : guard c s = true) (hfl : FloorOK c e s) :
    vec s.x.length s.g ⬝ᵥ
      (vec s.x.length ((concreteOracles c.lb c.ub e).xbar s.x s.g s.mats) - vec s.x.length s.x) < 0 := by
  obtain ⟨⟨X', G', hre⟩, -, -, -⟩ := fresh_rinv u c a hck hS hU hT hg hbox hx0 hgl i0 s0 hi0 hp0
  have hgt : 0 ≤ s.gtol := by
    rw [reach_gtol u _ c s0 s hr, hre.gtol]
    exact ha
  exact state_direction_descent u c e s (fresh_reach_dinv u c e a hck hS hU hT hg hm hbox hx0 hgl i0 s0 s hi0 hp0 hr)
    hbox hn he hgt hguard hfl

/-! ### Non-vacuity (ℚ): the instance of `C06Sim` (`f = ½|x|²` on `[−2,2]²` from `(1,1)`), complete model, no floor (`e = 0`): the
hypotheses of `run_direction_descent` hold at the state the run enters its loop with. -/

def runCheck : Bool :=
  match initEval simUser simCfg with
  | .ok i0 =>
    match prepare simUser simCfg i0 with
    | .ok s0 => guard simCfg s0 && decide (s0.X.length = 1)
    | _ => false
  | _ => false

theorem runCheck_true : runCheck = true := by decide +kernel

example : ∃ s0 : St ℚ, vec s0.x.length s0.g ⬝ᵥ
    (vec s0.x.length ((concreteOracles simCfg.lb simCfg.ub 0).xbar s0.x s0.g s0.mats) - vec s0.x.length s0.x) < 0 := by
  obtain ⟨i0, s0, hi0, hp0⟩ := C06.sim_start
  have h := runCheck_true
  simp only [runCheck, hi0, hp0, Bool.and_eq_true, decide_eq_true_eq] at h
  exact ⟨s0, run_direction_descent simUser simCfg 0 (1 / 1000) rfl rfl rfl rfl rfl (by decide)
    sim_boxOk rfl (by decide) (le_refl _) sim_gradLen
    i0 s0 s0 hi0 hp0 Reach.refl (by norm_num) h.1 (floorOK_zero simCfg s0 (by omega))⟩

end Lbfgsb.C01
