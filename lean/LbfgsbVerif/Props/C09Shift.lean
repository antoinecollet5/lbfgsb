/-
  C09 — the subspace point does not depend on where the origin of the variables is put.

  `subspace_point_shift`: `subspaceMin` on the input with `x`, `x_c`, `lb`, `ub` translated by one constant returns the translated
  point. No hypothesis: the positions enter only through `x_c − x`, `u − x_c`, `l − x_c`, the tests `x_c = u`, `x_c = l` and the projection.
-/
import LbfgsbVerif.Proofs.UnitsSub

namespace Lbfgsb.C09
open Lbfgsb Lbfgsb.Units
variable {K : Type} [Field K] [LinearOrder K] [IsStrictOrderedRing K]

def shiftSub (c : K) (i : SubIn K) : SubIn K :=
  { i with x := i.x.map (· + c), lb := i.lb.map (· + c), ub := i.ub.map (· + c), xc := i.xc.map (· + c) }

theorem freeMask_shift (c : K) (xc lb ub : Vec K) :
    freeMask (xc.map (· + c)) (lb.map (· + c)) (ub.map (· + c)) = freeMask xc lb ub :=
  freeMask_map (strictMono_shift c) xc lb ub

theorem vadd_shift_left (c : K) (a v : Vec K) : vadd (a.map (· + c)) v = (vadd a v).map (· + c) :=
  vzip_map_left (fun a b => add_right_comm a c b) a v

theorem alphaStar_shift (c : K) (xc d lb ub : Vec K) (mask : List Bool) :
    alphaStar (xc.map (· + c)) d (lb.map (· + c)) (ub.map (· + c)) mask = alphaStar xc d lb ub mask := by
  simpa only [List.map_id] using alphaStar_map (ratioInv_shift c) xc d lb ub mask

/-- the positions enter through `x_c − x` (`hr`) and the free set (`hm`) only; the rest is `rfl` on the fields `shiftSub` leaves alone -/
theorem subD_shift (c : K) (i : SubIn K) : subD (shiftSub c i) = subD i := by
  have hm : subMask (shiftSub c i) = subMask i := freeMask_shift c i.xc i.lb i.ub
  have hr : subR (shiftSub c i) = subR i := by
    simp only [subR, shiftSub, vsub_shift_both]
    rfl
  simp only [subD, subD0, subV, subN, subV0, subWz, subRHat, hr, hm]
  rfl

/-- **C09 (origin)** — `x`, `x_c`, `lb`, `ub` translated by `c`: the subspace point is translated by `c`; no hypothesis -/
theorem subspace_point_shift (c : K) (i : SubIn K) :
    subspaceMin (shiftSub c i) = (subspaceMin i).map (· + c) := by
  refine subspaceMin_map (strictMono_shift c) (ratioInv_shift c) (fun x a t => add_right_comm x c (a * t)) i (shiftSub c i)
    rfl rfl rfl ?_
  rw [subD_shift, List.map_id]

/-! ℚ: first variable on its lower bound at `x_c = (0, ½)` (a feasible point, not the output `(0, 1)` of `cauchy`), second free; moved by 7 -/

def sS : SubIn ℚ :=
  { x := [0, 0], g := [1, -2], lb := [0, -1], ub := [1, 3], theta := 2, W := [[0], [0]], Minv := [[0]], useFactor := false, epsFsec := 0,
    xc := [0, 1 / 2], c := [0] }

example : subspaceMin (shiftSub 7 sS) = [7, 8] := by
  rw [subspace_point_shift]
  decide +kernel

end Lbfgsb.C09
