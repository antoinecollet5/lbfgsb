/-
  C09 — the subspace step never increases the model value, and the resulting search direction is a descent direction (ordered field,
  Mathlib vectors). `m(z) = gᵀz + ½ zᵀBz`, `B` symmetric; `z_c = x_cp − x`; `u` the step before truncation: zero on the active variables,
  `(B(z_c + u) + g)_i = 0` on the free ones; `0 ≤ α ≤ 1` (C09 `alpha_star_feasible`); `x̄ − x = z_c + α u`.
  That the direction the code computes is such a `u` is shown for two descriptions of "restricted to the free variables": with the
  selection matrix `Z` (`selMat`, `n × |F|`) as the paper and the source's comments write it, and with masks in full dimension
  (`maskRows`, `maskVec`) as `subspaceMin` computes. Proofs/SubspaceBridge uses the second; neither is derived from the other, both
  apply C09 `smw_direction`.
-/
import LbfgsbVerif.Proofs.Quadratic
import LbfgsbVerif.Props.C09

namespace Lbfgsb.C09
open Lbfgsb Matrix
variable {K : Type} [Field K] [LinearOrder K] [IsStrictOrderedRing K] {n : Nat}

theorem masked_newton_condition (G : Fin n → K) (B : Matrix (Fin n) (Fin n) K) (z u : Fin n → K)
    (free : Fin n → Bool) (hact : ∀ r, free r = false → u r = 0)
    (hnewton : ∀ r, free r = true → (G + B *ᵥ (z + u)) r = 0) :
    u ⬝ᵥ (G + B *ᵥ (z + u)) = 0 := by
  unfold dotProduct
  apply Finset.sum_eq_zero
  intro r _
  cases hf : free r with
  | false => rw [hact r hf, zero_mul]
  | true => rw [hnewton r hf, mul_zero]

/-- **C09 (model value)** a factor `0 ≤ α ≤ 1` of the Newton step `u` does not increase the model -/
theorem subspace_no_increase (G : Fin n → K) (B : Matrix (Fin n) (Fin n) K) (hB : Bᵀ = B)
    (z u : Fin n → K) (hu : u ⬝ᵥ (G + B *ᵥ (z + u)) = 0) (hpsd : 0 ≤ u ⬝ᵥ (B *ᵥ u))
    (α : K) (h0 : 0 ≤ α) (h1 : α ≤ 1) :
    qmodel G B (z + α • u) ≤ qmodel G B z := by
  have e : G ⬝ᵥ u + u ⬝ᵥ (B *ᵥ z) = -(u ⬝ᵥ (B *ᵥ u)) := by
    rw [dotProduct_add, mulVec_add, dotProduct_add, dotProduct_comm u G] at hu
    exact eq_neg_of_add_eq_zero_left (by rw [← hu, add_assoc])
  -- along the step the model is `m(z) − α(1 − α/2)·uᵀBu`
  rw [qmodel_line G B hB z u α, e,
    show qmodel G B z + α * -(u ⬝ᵥ (B *ᵥ u)) + 1 / 2 * α * α * (u ⬝ᵥ (B *ᵥ u)) =
      qmodel G B z - α * (1 - α / 2) * (u ⬝ᵥ (B *ᵥ u)) by ring]
  exact sub_le_self _ (mul_nonneg (mul_nonneg h0 (sub_nonneg.2 ((half_le_self h0).trans h1))) hpsd)

/-- **C09 (descent)** a negative model value, for a positive semi-definite model, gives a descent direction -/
theorem descent_of_decrease (G : Fin n → K) (B : Matrix (Fin n) (Fin n) K) (d : Fin n → K)
    (hneg : qmodel G B d < 0) (hpsd : 0 ≤ d ⬝ᵥ (B *ᵥ d)) : G ⬝ᵥ d < 0 :=
  lt_of_le_of_lt (le_add_of_nonneg_right (mul_nonneg one_half_pos.le hpsd)) hneg

/-- **C09 (search direction)** Cauchy step with strict model decrease, then a truncated Newton step: `gᵀ(x̄ − x) < 0` -/
theorem direction_descent (G : Fin n → K) (B : Matrix (Fin n) (Fin n) K) (hB : Bᵀ = B)
    (hpsd : ∀ a : Fin n → K, 0 ≤ a ⬝ᵥ (B *ᵥ a))
    (zc u : Fin n → K) (free : Fin n → Bool) (hact : ∀ r, free r = false → u r = 0)
    (hnewton : ∀ r, free r = true → (G + B *ᵥ (zc + u)) r = 0)
    (hc : qmodel G B zc < 0) (α : K) (h0 : 0 ≤ α) (h1 : α ≤ 1) :
    G ⬝ᵥ (zc + α • u) < 0 := by
  have hu := masked_newton_condition G B zc u free hact hnewton
  have := subspace_no_increase G B hB zc u hu (hpsd u) α h0 h1
  exact descent_of_decrease G B _ (lt_of_le_of_lt this hc) (hpsd _)

section selection
open Matrix
variable {k : Nat}

def selMat (free : Fin n → Bool) : Matrix (Fin n) {r : Fin n // free r = true} K :=
  Matrix.of fun r j => if r = j.val then 1 else 0

theorem selMat_apply (free : Fin n → Bool) (r : Fin n) (j : {r : Fin n // free r = true}) :
    (selMat free : Matrix _ _ K) r j = if r = j.val then 1 else 0 := rfl

theorem selMat_mulVec (free : Fin n → Bool) (d : {r : Fin n // free r = true} → K) (r : Fin n) :
    (selMat free *ᵥ d) r = if h : free r = true then d ⟨r, h⟩ else 0 := by
  simp only [mulVec, dotProduct, selMat_apply, ite_mul, one_mul, zero_mul]
  split
  · rename_i h
    rw [Finset.sum_eq_single ⟨r, h⟩ (fun j _ hj => if_neg fun e => hj (Subtype.ext e.symm))
      (fun h' => absurd (Finset.mem_univ _) h'), if_pos rfl]
  · rename_i h
    exact Finset.sum_eq_zero fun j _ => if_neg fun (e : r = j.val) => h (e ▸ j.2)

theorem selMat_transpose_mulVec (free : Fin n → Bool) (a : Fin n → K) (j : {r : Fin n // free r = true}) :
    ((selMat free)ᵀ *ᵥ a) j = a j.val := by
  simp only [mulVec, dotProduct, transpose_apply, selMat_apply, ite_mul, one_mul, zero_mul]
  rw [Finset.sum_ite_eq' Finset.univ j.val a, if_pos (Finset.mem_univ _)]

/-- **C09 (Newton condition from the reduced system)** for the extension by zero `u = Z d̂` of its solution -/
theorem newton_of_reduced (G : Fin n → K) (B : Matrix (Fin n) (Fin n) K) (zc : Fin n → K)
    (free : Fin n → Bool) (dh : {r : Fin n // free r = true} → K)
    (hred : ((selMat free)ᵀ * B * selMat free) *ᵥ dh = -((selMat free)ᵀ *ᵥ (G + B *ᵥ zc))) :
    (∀ r, free r = false → (selMat free *ᵥ dh) r = 0) ∧
    (∀ r, free r = true → (G + B *ᵥ (zc + selMat free *ᵥ dh)) r = 0) := by
  constructor
  · intro r hr
    rw [selMat_mulVec, dif_neg (ne_true_of_eq_false hr)]
  · intro r hr
    have h1 := congrFun hred ⟨r, hr⟩
    rw [← mulVec_mulVec, ← mulVec_mulVec, selMat_transpose_mulVec, Pi.neg_apply, selMat_transpose_mulVec] at h1
    rw [mulVec_add, ← add_assoc, Pi.add_apply, h1, add_neg_cancel]

theorem selMat_orth (free : Fin n → Bool) :
    ((selMat (K := K) free)ᵀ * selMat (K := K) free : Matrix {r : Fin n // free r = true} _ K) = 1 := by
  ext i j
  -- column `j` of `Z`, read at the free variable `i`
  refine (selMat_transpose_mulVec free (fun r => selMat free r j) i).trans ?_
  rw [selMat_apply, one_apply]
  exact if_congr Subtype.ext_iff.symm rfl rfl

theorem reduced_bmat (free : Fin n → Bool) (θ : K) (W : Matrix (Fin n) (Fin k) K) (M : Matrix (Fin k) (Fin k) K) :
    (selMat (K := K) free)ᵀ * bmat θ W M * selMat (K := K) free =
      θ • (1 : Matrix {r : Fin n // free r = true} _ K) -
        ((selMat (K := K) free)ᵀ * W) * M * ((selMat (K := K) free)ᵀ * W)ᵀ := by
  unfold bmat
  rw [Matrix.mul_sub, Matrix.sub_mul, Matrix.mul_smul, Matrix.smul_mul, Matrix.mul_one, selMat_orth]
  congr 1
  rw [transpose_mul, transpose_transpose]
  simp only [Matrix.mul_assoc]

/-- **C09 (the direction the code computes is a descent direction)** `v` solves the small system of the source,
`d̂ = −θ⁻¹(r̂ + θ⁻¹ Ŵ v)`, `d = z_c + α Z d̂` -/
theorem code_direction_descent (G : Fin n → K) (θ : K) (hθ : θ ≠ 0) (W : Matrix (Fin n) (Fin k) K)
    (M Minv : Matrix (Fin k) (Fin k) K) (hM : M * Minv = 1) (hsym : Mᵀ = M)
    (hpsd : ∀ a : Fin n → K, 0 ≤ a ⬝ᵥ (bmat θ W M *ᵥ a))
    (zc : Fin n → K) (free : Fin n → Bool) (v : Fin k → K)
    (hK : (Minv - (1 / θ) • (((selMat (K := K) free)ᵀ * W)ᵀ * ((selMat (K := K) free)ᵀ * W))) *ᵥ v =
      ((selMat (K := K) free)ᵀ * W)ᵀ *ᵥ ((selMat (K := K) free)ᵀ *ᵥ (G + bmat θ W M *ᵥ zc)))
    (hc : qmodel G (bmat θ W M) zc < 0) (α : K) (h0 : 0 ≤ α) (h1 : α ≤ 1) :
    G ⬝ᵥ (zc + α • (selMat (K := K) free *ᵥ
      (-(1 / θ) • ((selMat (K := K) free)ᵀ *ᵥ (G + bmat θ W M *ᵥ zc) +
        (1 / θ) • (((selMat (K := K) free)ᵀ * W) *ᵥ v))))) < 0 := by
  have hsmw := smw_direction ((selMat (K := K) free)ᵀ * W) M Minv hM θ hθ
    ((selMat (K := K) free)ᵀ *ᵥ (G + bmat θ W M *ᵥ zc)) v hK
  rw [← reduced_bmat] at hsmw
  obtain ⟨hact, hnewton⟩ := newton_of_reduced G (bmat θ W M) zc free _ hsmw
  exact direction_descent G _ (bmat_symm θ W M hsym) hpsd zc _ free hact hnewton hc α h0 h1

end selection

section masked
open Matrix
variable {k : Nat}

def maskRows (mask : Fin n → Bool) (W : Matrix (Fin n) (Fin k) K) : Matrix (Fin n) (Fin k) K :=
  Matrix.of fun r j => if mask r then W r j else 0

def maskVec (mask : Fin n → Bool) (a : Fin n → K) : Fin n → K := fun r => if mask r then a r else 0

theorem maskVec_apply_true {mask : Fin n → Bool} {r : Fin n} (h : mask r = true) (a : Fin n → K) :
    maskVec mask a r = a r := if_pos h

theorem maskVec_apply_false {mask : Fin n → Bool} {r : Fin n} (h : mask r = false) (a : Fin n → K) :
    maskVec mask a r = 0 := if_neg (h ▸ Bool.false_ne_true)

theorem maskRows_mulVec (mask : Fin n → Bool) (W : Matrix (Fin n) (Fin k) K) (v : Fin k → K) (r : Fin n) :
    (maskRows mask W *ᵥ v) r = if mask r then (W *ᵥ v) r else 0 := by
  simp only [mulVec, dotProduct, maskRows, of_apply]
  split
  · rfl
  · simp only [zero_mul, Finset.sum_const_zero]

theorem maskRows_transpose_mulVec (mask : Fin n → Bool) (W : Matrix (Fin n) (Fin k) K) (u : Fin n → K)
    (hu : ∀ r, mask r = false → u r = 0) : (maskRows mask W)ᵀ *ᵥ u = Wᵀ *ᵥ u := by
  funext j
  simp only [mulVec, dotProduct, transpose_apply, maskRows, of_apply]
  apply Finset.sum_congr rfl
  intro r _
  cases hm : mask r with
  | true => rfl
  | false => rw [hu r hm, mul_zero, mul_zero]

/-- **C09 (masked Sherman–Morrison–Woodbury)** the direction the code computes in full dimension, `Ŵ`, `r̂` the masked
`W`, `r`: zero on the active variables, `(B u)_i = −r_i` on the free ones -/
theorem masked_smw (θ : K) (hθ : θ ≠ 0) (W : Matrix (Fin n) (Fin k) K) (M Minv : Matrix (Fin k) (Fin k) K)
    (hM : M * Minv = 1) (mask : Fin n → Bool) (rr : Fin n → K) (v : Fin k → K)
    (hK : (Minv - (1 / θ) • ((maskRows mask W)ᵀ * maskRows mask W)) *ᵥ v = (maskRows mask W)ᵀ *ᵥ maskVec mask rr) :
    let u := -(1 / θ) • (maskVec mask rr + (1 / θ) • (maskRows mask W *ᵥ v))
    (∀ r, mask r = false → u r = 0) ∧ (∀ r, mask r = true → (bmat θ W M *ᵥ u) r = -(rr r)) := by
  intro u
  have hzero : ∀ r, mask r = false → u r = 0 := by
    intro r hr
    show -(1 / θ) * (maskVec mask rr r + (1 / θ) * (maskRows mask W *ᵥ v) r) = 0
    rw [maskVec_apply_false hr, maskRows_mulVec, hr, if_neg Bool.false_ne_true, mul_zero, add_zero, mul_zero]
  refine ⟨hzero, ?_⟩
  intro r hr
  -- row `r` of the Woodbury identity for the masked `W`; on a free row and a masked `u` the masks drop out
  have h1 := congrFun (smw_direction (maskRows mask W) M Minv hM θ hθ (maskVec mask rr) v hK) r
  rw [sub_mulVec, smul_mulVec, one_mulVec, ← mulVec_mulVec, ← mulVec_mulVec, maskRows_transpose_mulVec mask W _ hzero,
    Pi.sub_apply, maskRows_mulVec, if_pos hr, Pi.neg_apply, maskVec_apply_true hr] at h1
  rw [bmat_mulVec]
  exact h1

end masked

end Lbfgsb.C09

namespace Lbfgsb.Units
open Lbfgsb Matrix
variable {K : Type} [Field K] [LinearOrder K] [IsStrictOrderedRing K]

/-- with a positive definite model a masked step `u` with `(B u)_i = 0` on the free variables vanishes: it satisfies C09
`masked_newton_condition` with zero gradient, so `uᵀBu = 0` -/
theorem masked_newton_zero {n : Nat} (B : Matrix (Fin n) (Fin n) K)
    (pd : ∀ a : Fin n → K, a ≠ 0 → 0 < a ⬝ᵥ (B *ᵥ a)) (m : Fin n → Bool) (u : Fin n → K)
    (hz : ∀ r, m r = false → u r = 0) (hn : ∀ r, m r = true → (B *ᵥ u) r = 0) : u = 0 := by
  by_contra hne
  have hq := C09.masked_newton_condition 0 B 0 u m hz fun r hr => by rw [zero_add, zero_add, hn r hr]
  rw [zero_add, zero_add] at hq
  exact (pd u hne).ne' hq

/-- so the masked Newton step is determined by its specification: the difference of two such steps is such a `u` -/
theorem masked_newton_unique {n : Nat} (B : Matrix (Fin n) (Fin n) K)
    (pd : ∀ a : Fin n → K, a ≠ 0 → 0 < a ⬝ᵥ (B *ᵥ a)) (m : Fin n → Bool) (r0 D1 D2 : Fin n → K)
    (z1 : ∀ r, m r = false → D1 r = 0) (z2 : ∀ r, m r = false → D2 r = 0)
    (n1 : ∀ r, m r = true → (r0 + B *ᵥ D1) r = 0) (n2 : ∀ r, m r = true → (r0 + B *ᵥ D2) r = 0) : D1 = D2 := by
  refine sub_eq_zero.1 (masked_newton_zero B pd m (D1 - D2) (fun r hr => ?_) fun r hr => ?_)
  · rw [Pi.sub_apply, z1 r hr, z2 r hr, sub_zero]
  · rw [mulVec_sub, Pi.sub_apply, sub_eq_zero]
    exact add_left_cancel ((n1 r hr).trans (n2 r hr).symm)

end Lbfgsb.Units
