/-
  C15 — the function wrapper never serves a stale value and counts every evaluation once.

  Level U: `α` is any linear order, arithmetic (`*`) is an arbitrary operation, the user's
  functions and the differencing oracle are arbitrary. In a linear order `np.array_equal` is
  equality, so "a fresh evaluation at the requested point" is literally `u.F x`.
-/
import LbfgsbVerif.Proofs.Count
import Mathlib.Data.Int.Order.Basic

namespace Lbfgsb.C15
variable {α ε : Type}

section spec
variable [Mul α] [LT α] [DecidableLT α] [OfNat α 0]

/-- STATELESS SPECIFICATION: the answer to a request is a fresh evaluation of the user's
functions at the requested point, times the current scaling factor. -/
def specOut (u : SFUser α ε) (lb ub : Vec α) (mode : GradMode) (c : α) :
    SFOp α → Except ε (SFOut α)
  | .funv x => do let f ← u.F x; pure (.val (f * c))
  | .gradv x => do let g ← gradSpec u lb ub mode x; pure (.grad (vscale g c))
  | .funAndGrad x => do
      let f ← u.F x
      let g ← gradSpec u lb ub mode x
      pure (.both (f * c) (vscale g c))
  | .setScale _ => pure .unit

def specScale (c : α) : SFOp α → α
  | .setScale c' => c'
  | _ => c

def specRun (u : SFUser α ε) (lb ub : Vec α) (mode : GradMode) :
    α → List (SFOp α) → Except ε (List (SFOut α))
  | _, [] => pure []
  | c, op :: ops => do
    let o ← specOut u lb ub mode c op
    let os ← specRun u lb ub mode (specScale c op) ops
    pure (o :: os)
end spec

variable [LinearOrder α] [Mul α] [OfNat α 0]

theorem step_refines {u : SFUser α ε} {s s' : SF α} {op : SFOp α} {o : SFOut α}
    (hc : Coh u s) (h : s.step u op = .ok (s', o)) :
    Coh u s' ∧ specOut u s.lb s.ub s.mode s.scale op = .ok o ∧ s'.mode = s.mode ∧
      s'.lb = s.lb ∧ s'.ub = s.ub ∧ s'.scale = specScale s.scale op := by
  rcases SF.step_ok h with ⟨x, f, rfl, h1, rfl⟩ | ⟨x, g, rfl, h1, rfl⟩ | ⟨x, f, g, rfl, h1, rfl⟩ |
    ⟨c, rfl, rfl, rfl⟩
  · obtain ⟨es, ⟨f0, hF, rfl⟩, -⟩ := funv_sum hc h1
    exact ⟨es.coh, bind_ok.2 ⟨f0, hF, rfl⟩, es.mode, es.lb, es.ub, es.scale⟩
  · obtain ⟨es, ⟨g0, hG, rfl⟩, -⟩ := gradv_sum hc h1
    exact ⟨es.coh, bind_ok.2 ⟨g0, hG, rfl⟩, es.mode, es.lb, es.ub, es.scale⟩
  · obtain ⟨es, ⟨f0, hF, rfl⟩, g0, hG, rfl⟩ := funAndGrad_sum hc h1
    exact ⟨es.coh, bind_ok.2 ⟨f0, hF, bind_ok.2 ⟨g0, hG, rfl⟩⟩, es.mode, es.lb, es.ub, es.scale⟩
  · exact ⟨hc, rfl, rfl, rfl, rfl, rfl⟩

/-- **C15 (1) — refinement to the stateless specification.**
For every user objective/gradient/differencing oracle, every starting state with a coherent
cache (in particular a fresh wrapper) and every sequence of requests and scale changes:
whenever the wrapper answers, its answers are exactly the fresh evaluations of the
specification. No stale value is ever served. -/
theorem sf_refines (u : SFUser α ε) (ops : List (SFOp α)) (s s' : SF α) (outs : List (SFOut α))
    (hc : Coh u s) (h : SF.steps u s ops = .ok (s', outs)) :
    specRun u s.lb s.ub s.mode s.scale ops = .ok outs ∧ Coh u s' := by
  induction ops generalizing s outs with
  | nil =>
    cases pure_ok.1 h
    exact ⟨rfl, hc⟩
  | cons op ops ih =>
    obtain ⟨s1, o, os, h1, h2, rfl⟩ := SF.steps_cons_ok h
    obtain ⟨hc1, ho, hm, hlb, hub, hsc⟩ := step_refines hc h1
    obtain ⟨hr, hc2⟩ := ih s1 os hc1 h2
    rw [hm, hlb, hub, hsc] at hr
    exact ⟨bind_ok.2 ⟨o, ho, bind_ok.2 ⟨os, hr, rfl⟩⟩, hc2⟩

/-- a fresh wrapper has a coherent (empty) cache: the hypothesis of `sf_refines` is met -/
theorem new_coh [OfNat α 1] (u : SFUser α ε) (mode : GradMode) (x0 lb ub : Vec α) :
    Coh u (SF.new mode x0 lb ub) :=
  Lbfgsb.new_coh u mode x0 lb ub

/-- **C15 (2) — no re-evaluation.** Once the value at `x` has been served, asking again at
`x` — after any number of scale changes — leaves the whole state (counters, log) unchanged:
the objective is not called again. -/
theorem no_reeval (u : SFUser α ε) (s s1 : SF α) (x : Vec α) (v : α) (cs : List α)
    (h : s.funv u x = .ok (s1, v)) :
    let s2 := cs.foldl (fun t c => { t with scale := c }) s1
    s2.funv u x = .ok (s2, s2.f * s2.scale) ∧ s2.nfev = s1.nfev ∧ s2.log = s1.log := by
  have key : s1.fUpd = true ∧ s1.x = x := by
    obtain ⟨h1, -⟩ := funv_ok.1 h
    obtain ⟨fu, gu, e, -⟩ := updateX_eq s x
    rw [e] at h1
    rcases updFun_ok.1 h1 with ⟨hf, rfl⟩ | ⟨-, w, -, rfl⟩
    · exact ⟨hf, rfl⟩
    · exact ⟨rfl, rfl⟩
  have inv : ∀ (cs : List α) (t : SF α),
      ∃ c, cs.foldl (fun t c => { t with scale := c }) t = { t with scale := c } := by
    intro cs
    induction cs with
    | nil => exact fun t => ⟨t.scale, rfl⟩
    | cons c cs ih => exact fun t => ih { t with scale := c }
  obtain ⟨c, e⟩ := inv cs s1
  rw [e]
  refine ⟨funv_ok.2 ⟨?_, rfl⟩, rfl, rfl⟩
  rw [← key.2]
  rw [show ({ s1 with scale := c } : SF α).updateX s1.x = { s1 with scale := c } from
    updateX_same lt_irrefl { s1 with scale := c }]
  exact updFun_ok.2 (Or.inl ⟨key.1, rfl⟩)

abbrev Counted (s : SF α) : Prop := CountedFrom 0 0 s

theorem step_counted {u : SFUser α ε} {s s' : SF α} {op : SFOp α} {o : SFOut α}
    (hc : Counted s) (h : s.step u op = .ok (s', o)) : Counted s' := by
  rcases SF.step_ok h with ⟨x, f, -, h1, -⟩ | ⟨x, g, -, h1, -⟩ | ⟨x, f, g, -, h1, -⟩ |
    ⟨c, -, rfl, -⟩
  · exact funv_counted hc h1
  · exact gradv_counted hc h1
  · exact funAndGrad_counted hc h1
  · exact hc

/-- **C15 (3) — counters equal calls.** Starting from a fresh wrapper (or any state whose
counters agree with its log), after any sequence of operations `nfev` is the number of calls
made to the user's objective (stencil points of finite differences included) and, with a
callable gradient, `ngev` the number of calls made to the user's gradient. -/
theorem counters_eq_calls (u : SFUser α ε) (ops : List (SFOp α)) (s s' : SF α)
    (outs : List (SFOut α)) (hc : Counted s) (h : SF.steps u s ops = .ok (s', outs)) :
    s'.nfev = nF s'.log ∧ (s'.mode = .callable → s'.ngev = nG s'.log) := by
  suffices hh : Counted s' by simpa [CountedFrom] using hh
  induction ops generalizing s outs with
  | nil =>
    cases pure_ok.1 h
    exact hc
  | cons op ops ih =>
    obtain ⟨s1, o, os, h1, h2, -⟩ := SF.steps_cons_ok h
    exact ih s1 os (step_counted hc h1) h2

omit [LinearOrder α] [Mul α] in
theorem new_counted [OfNat α 1] (mode : GradMode) (x0 lb ub : Vec α) :
    Counted (SF.new mode x0 lb ub : SF α) := by
  simp [CountedFrom, SF.new, nF, nG]

omit [Mul α] in
/-- **C15 (4) — finite-difference gradients.** With a differencing mode, computing a gradient
at a point costs exactly one objective call at the point — unless its value is cached — plus
one per stencil point chosen by the differencing routine, all of them through the counting
wrapper and logged in that order, and `ngev` grows by one. -/
theorem fd_counts (u : SFUser α ε) (s s' : SF α) (hc : Coh u s) (hm : s.mode = .fd)
    (hg : s.gUpd = false) (h : s.updGrad u = .ok s') :
    ∃ f, u.F s.x = .ok f ∧ s'.ngev = s.ngev + 1 ∧
      s'.nfev = s.nfev + (if s.fUpd then 0 else 1) + (u.fdPts s.x f).length ∧
      s'.log = s.log ++ (if s.fUpd then [] else [Call.mk .F s.x]) ++ fcalls (u.fdPts s.x f) := by
  rcases updGrad_ok h with ⟨hg', -⟩ | ⟨-, hm', -⟩ | ⟨-, -, s1, vs, h1, -, rfl⟩
  · cases hg.symm.trans hg'
  · cases hm.symm.trans hm'
  · rcases updFun_ok.1 h1 with ⟨hf, rfl⟩ | ⟨hf, v, hv, rfl⟩
    · refine ⟨_, hc.1 hf, rfl, ?_, ?_⟩
      · simp [hf]
      · simp [hf]
    · refine ⟨v, hv, rfl, ?_, ?_⟩
      · simp [hf]
      · simp [hf]

def uZ : SFUser ℤ String where
  F x := .ok (dot x x)
  Gr x := .ok (smul 2 x)
  fdPts x _ := [x.map (· + 1)]
  fdComb _ f vs := vs.map (· - f)

def histZ : List (SFOp ℤ) :=
  [.funv [1, 2], .gradv [3, 4], .setScale 5, .funv [1, 2], .funAndGrad [1, 2], .funv [1, 2]]

/-- the history runs to completion from a fresh wrapper, re-evaluates `F [1,2]` exactly once
after the cache moved to `[3,4]`, and the theorems' conclusions can be observed. -/
example : ∃ s' outs, SF.steps uZ (SF.new .callable [1, 2]) histZ = .ok (s', outs) ∧
    s'.nfev = 2 ∧ s'.ngev = 2 ∧ nF s'.log = 2 ∧ nG s'.log = 2 :=
  exists_ok_of_decide (by decide +kernel)

example : ∃ s' outs, SF.steps uZ (SF.new .fd [1, 2]) histZ = .ok (s', outs) ∧
    s'.nfev = 5 ∧ s'.ngev = 2 ∧ nF s'.log = 5 :=
  exists_ok_of_decide (by decide +kernel)

example : Coh uZ (SF.new .callable [1, 2]) ∧ Counted (SF.new .callable [1, 2] : SF ℤ) :=
  ⟨new_coh _ _ _ _ _, new_counted _ _ _ _⟩

end Lbfgsb.C15
