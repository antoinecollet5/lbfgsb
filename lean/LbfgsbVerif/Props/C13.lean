/-
  C13 — redefining the objective on the fly acts as a restart on the new objective.

  Level U theorems about the history filter `filterWolfe` (`make_X_and_G_respect_strong_wolfe`),
  for arbitrary rewritten gradients `G`: it is a backward walk from the newest point
  (`filterWolfe_cases`), and `Walked` says of the walk all that the four clauses ask.
  The clauses about complete runs are theorems of their own modules:
  `identity_update_transparent` (Props/C13Run: identity update = run without it),
  `redefinition_pairs_curvature` (Props/C13Mem: the pairs of later states are differences of
  the rewritten history and pass the curvature test), `redefinition_acts_as_restart`
  (Props/C13Restart: next iterate = restart on the new objective).
-/
import LbfgsbVerif.Proofs.C06

namespace Lbfgsb.C13
variable {α : Type} [Add α] [Sub α] [Mul α] [LT α] [DecidableLT α] [OfNat α 0]

/-- all consecutive pairs `(older, newer)` pass the curvature test, in the orientation the
filter evaluates it -/
def PairsOk (eps : α) : List (Vec α) → List (Vec α) → Prop
  | x1 :: x2 :: xs, g1 :: g2 :: gs =>
    curvOk x1 g1 x2 g2 eps = true ∧ PairsOk eps (x2 :: xs) (g2 :: gs)
  | _, _ => True

theorem pairsOk_cons (eps : α) (x g : Vec α) {xs gs : List (Vec α)} (hx : xs ≠ []) (hg : gs ≠ []) :
    PairsOk eps (x :: xs) (g :: gs) ↔
      curvOk x g (xs.headD []) (gs.headD []) eps = true ∧ PairsOk eps xs gs := by
  cases xs with
  | nil => exact absurd rfl hx
  | cons y ys =>
    cases gs with
    | nil => exact absurd rfl hg
    | cons k ks => rfl

/-- what the backward walk over `xs` returns (`r`) when started from `acc` -/
structure Walked (eps : α) (xs : List (Vec α)) (acc r : List (Vec α) × List (Vec α)) :
    Prop where
  pairs : PairsOk eps r.1 r.2
  len : r.1.length = r.2.length
  -- for the induction: the `headD` the walk tests is the head in `PairsOk` only on a non-empty list
  ne_nil : r.1 ≠ []
  suffix₁ : acc.1 <:+ r.1
  suffix₂ : acc.2 <:+ r.2
  sub : List.Sublist r.1 (xs ++ acc.1)

theorem filterGo_spec (eps : α) (xs gs : List (Vec α)) (acc : List (Vec α) × List (Vec α))
    (ha : PairsOk eps acc.1 acc.2) (hl : acc.1.length = acc.2.length) (hne : acc.1 ≠ []) :
    Walked eps xs acc (filterGo eps xs gs acc) := by
  fun_induction filterGo eps xs gs acc with
  | case1 x xs g gs acc r hc ih =>
    have w := ih ha hl hne
    exact ⟨(pairsOk_cons eps x g w.ne_nil (ne_nil_of_length_eq w.len w.ne_nil)).2 ⟨hc, w.pairs⟩,
      congrArg (· + 1) w.len, List.cons_ne_nil _ _, w.suffix₁.trans (List.suffix_cons x r.1),
      w.suffix₂.trans (List.suffix_cons g r.2), w.sub.cons_cons x⟩
  | case2 x xs g gs acc r hc ih =>
    have w := ih ha hl hne
    exact ⟨w.pairs, w.len, w.ne_nil, w.suffix₁, w.suffix₂, w.sub.cons x⟩
  | case3 xs gs acc =>
    exact ⟨ha, hl, hne, List.suffix_refl _, List.suffix_refl _, List.sublist_append_right _ _⟩

theorem walk_spec (eps : α) (X0 G0 : List (Vec α)) (xl gl : Vec α) :
    Walked eps X0 ([xl], [gl]) (filterGo eps X0 G0 ([xl], [gl])) :=
  filterGo_spec eps X0 G0 ([xl], [gl]) trivial rfl (List.cons_ne_nil _ _)

theorem filterWolfe_concat (eps : α) (X G : List (Vec α)) (xl gl : Vec α) :
    filterWolfe (X ++ [xl]) (G ++ [gl]) eps = filterGo eps X G ([xl], [gl]) := by
  -- `(X ++ [xl]).reverse = xl :: X.reverse`: the `match` in `filterWolfe` meets the newest point first
  simp [filterWolfe]

theorem filterWolfe_nil (eps : α) (X G : List (Vec α)) (h : X = [] ∨ G = []) :
    filterWolfe X G eps = (X, G) := by
  unfold filterWolfe
  split
  · rename_i hx hg
    rcases h with rfl | rfl
    · cases hx
    · cases hg
  · rfl

theorem filterWolfe_cases (eps : α) (X G : List (Vec α)) :
    ((X = [] ∨ G = []) ∧ filterWolfe X G eps = (X, G)) ∨
    ∃ X0 xl G0 gl, X = X0 ++ [xl] ∧ G = G0 ++ [gl] ∧
      filterWolfe X G eps = filterGo eps X0 G0 ([xl], [gl]) := by
  rcases X.eq_nil_or_concat with rfl | ⟨X0, xl, rfl⟩
  · exact Or.inl ⟨Or.inl rfl, filterWolfe_nil eps _ _ (Or.inl rfl)⟩
  · rcases G.eq_nil_or_concat with rfl | ⟨G0, gl, rfl⟩
    · exact Or.inl ⟨Or.inr rfl, filterWolfe_nil eps _ _ (Or.inr rfl)⟩
    · rw [List.concat_eq_append, List.concat_eq_append]
      exact Or.inr ⟨X0, xl, G0, gl, rfl, rfl, filterWolfe_concat eps X0 G0 xl gl⟩

/-- **C13 (1)** the newest point of the history is always retained (as the newest retained
point), together with its gradient. -/
theorem filter_keeps_newest (eps : α) (X G : List (Vec α)) (xl gl : Vec α) (X0 G0 : List (Vec α))
    (hX : X = X0 ++ [xl]) (hG : G = G0 ++ [gl]) :
    (filterWolfe X G eps).1.getLast? = some xl ∧ (filterWolfe X G eps).2.getLast? = some gl := by
  subst hX
  subst hG
  have w := walk_spec eps X0 G0 xl gl
  rw [filterWolfe_concat]
  exact ⟨List.singleton_suffix_iff_getLast?_eq_some.1 w.suffix₁,
    List.singleton_suffix_iff_getLast?_eq_some.1 w.suffix₂⟩

/-- **C13 (2)** the filtered history is a subsequence (order preserved) of the one handed in. -/
theorem filter_subsequence (eps : α) (X G : List (Vec α)) :
    List.Sublist (filterWolfe X G eps).1 X := by
  rcases filterWolfe_cases eps X G with ⟨-, h⟩ | ⟨X0, xl, G0, gl, rfl, rfl, h⟩ <;> rw [h]
  · exact List.Sublist.refl _
  · exact (walk_spec eps X0 G0 xl gl).sub

/-- **C13 (3)** every retained consecutive pair satisfies the curvature condition. -/
theorem filter_curvature (eps : α) (X G : List (Vec α)) (hne : X ≠ []) (hG : G ≠ []) :
    PairsOk eps (filterWolfe X G eps).1 (filterWolfe X G eps).2 := by
  rcases filterWolfe_cases eps X G with ⟨h, -⟩ | ⟨X0, xl, G0, gl, rfl, rfl, h⟩
  · exact absurd h (not_or.2 ⟨hne, hG⟩)
  · rw [h]
    exact (walk_spec eps X0 G0 xl gl).pairs

theorem filterGo_all (eps : α) (xs gs : List (Vec α)) (acc : List (Vec α) × List (Vec α))
    (hlen : xs.length = gs.length) (hok : PairsOk eps (xs ++ acc.1) (gs ++ acc.2))
    (hne : acc.1 ≠ []) (hne2 : acc.2 ≠ []) :
    filterGo eps xs gs acc = (xs ++ acc.1, gs ++ acc.2) := by
  induction xs generalizing gs with
  | nil =>
    cases gs with
    | nil => rfl
    | cons g gs => cases hlen
  | cons x xs ih =>
    cases gs with
    | nil => cases hlen
    | cons g gs =>
      obtain ⟨hhead, htail⟩ := (pairsOk_cons eps x g (List.append_ne_nil_of_right_ne_nil xs hne)
        (List.append_ne_nil_of_right_ne_nil gs hne2)).1 hok
      simp only [filterGo, ih gs (Nat.succ.inj hlen) htail, hhead, if_true, List.cons_append]

/-- **C13 (4)** a history all of whose consecutive pairs pass the test is returned unchanged:
with an update function that returns its inputs the filter is a no-op. -/
theorem identity_filter_noop (eps : α) (X G : List (Vec α)) (hlen : X.length = G.length)
    (hok : PairsOk eps X G) : filterWolfe X G eps = (X, G) := by
  rcases filterWolfe_cases eps X G with ⟨-, h⟩ | ⟨X0, xl, G0, gl, rfl, rfl, h⟩
  · exact h
  · rw [h]
    exact filterGo_all eps X0 G0 ([xl], [gl]) (by simpa using hlen) hok (List.cons_ne_nil _ _)
      (List.cons_ne_nil _ _)

section driver
variable {β : Type} [Add β] [Sub β] [Mul β] [Div β] [Neg β] [LT β] [DecidableLT β] [OfNat β 0] [OfNat β 1]
  [FloatLike β]

/-- **C13 (5)** with an update function, after the memory step of an iteration the matrices
snapshot is exactly the current (rewritten, filtered, possibly extended) history — also when the
newest pair was rejected, in which case it is rebuilt from the rewritten gradients, or reset to
"no pair" when a single point is left (the source rebuilds the matrices after `update_fun_def`
rewrote the gradients, whether or not the new pair is accepted). -/
theorem memStep_mats_current (c : Cfg β) (s : St β) (hU : c.hasUpdate = true) :
    (memStep c s).mats = some ((memStep c s).X, (memStep c s).G) ∨
    ((memStep c s).mats = none ∧ (memStep c s).X.length ≤ 1) := by
  cases hk : curvOk s.x s.g (lastD s.X) (lastD s.G) c.epsSY
  · rw [memStep_reject c s hk, hU]
    by_cases h1 : s.X.length > 1
    · exact Or.inl (if_pos h1)
    · exact Or.inr ⟨if_neg h1, Nat.le_of_not_lt h1⟩
  · rw [memStep_accept c s hk]
    exact Or.inl rfl

end driver

/-! ### Non-vacuity: over `ℤ`, a history of four points whose middle pair breaks the
curvature condition after the rewrite: the filter drops one point and keeps the newest. -/
def Xz : List (Vec Int) := [[0], [1], [2], [3]]
def Gz : List (Vec Int) := [[0], [2], [1], [4]]

example : filterWolfe Xz Gz (0 : Int) = ([[0], [2], [3]], [[0], [1], [4]]) := by decide +kernel
example : PairsOk (0 : Int) (filterWolfe Xz Gz 0).1 (filterWolfe Xz Gz 0).2 := by
  -- `apply`, since a term would be elaborated against the expected type, which the elaborator first evaluates
  apply filter_curvature
  · decide
  · decide

end Lbfgsb.C13
