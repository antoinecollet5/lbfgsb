/-
  C10 / C09 — the matrix the kernels use IS the BFGS matrix of the stored pairs, and is positive definite: for the lists the
  model builds (`buildW`, `buildMinv`, Model/Kernels.lean — compared with `update_lbfgs_matrices` by the C10 differential), pairs with
  `s ≠ 0`, `sᵀy > 0`, `θ > 0` and `Mm` any left inverse of the matrix of `buildMinv`, `θI − W Mm Wᵀ` is the dense BFGS recursion.
  Hence the subspace theorem of C09 holds for such an input with no hypothesis on solves or on definiteness.
-/
import LbfgsbVerif.Proofs.CompactKernel
import LbfgsbVerif.Props.C09Solve

namespace Lbfgsb.C10
open Lbfgsb Matrix CompactKernel Lbfgsb.Gauss
variable {K : Type} [Field K] [LinearOrder K] [IsStrictOrderedRing K]

/-- **C10** the kernels' matrix is the BFGS matrix of the stored pairs, and SPD: with `Mm` any left inverse of the list matrix of
`buildMinv`, `bmat θ (buildW …) Mm` is `bfgsChain (θ I)` of the pairs, oldest first. -/
theorem kernel_matrix_is_bfgs (nn : Nat) (θ : K) (S Y : List (Vec K)) (hθ : 0 < θ) (h : S.length = Y.length)
    (hS : ∀ j, j < S.length → (S.getD j []).length = nn) (hY : ∀ j, j < S.length → (Y.getD j []).length = nn)
    (hcurv : ∀ j, j < S.length → vec nn (S.getD j []) ≠ 0 ∧ 0 < vec nn (S.getD j []) ⬝ᵥ vec nn (Y.getD j []))
    (Mm : Matrix (Fin ((lOf nn S Y).length + (lOf nn S Y).length)) (Fin ((lOf nn S Y).length + (lOf nn S Y).length)) K)
    (hM : Mm * wmat ((lOf nn S Y).length + (lOf nn S Y).length) ((lOf nn S Y).length + (lOf nn S Y).length)
      (buildMinv θ S Y) = 1) :
    bmat θ (wmat nn ((lOf nn S Y).length + (lOf nn S Y).length) (buildW nn θ S Y)) Mm =
        bfgsChain (θ • (1 : Matrix (Fin nn) (Fin nn) K)) (pairsOf nn S Y) ∧
    SPD (bfgsChain (θ • (1 : Matrix (Fin nn) (Fin nn) K)) (pairsOf nn S Y)) := by
  have hMb : Mm.submatrix finSumFinEquiv finSumFinEquiv * Compact.N (CompactBridge.Smat (lOf nn S Y)) (CompactBridge.Ymat (lOf nn S Y)) θ = 1 := by
    rw [N_eq_buildMinv nn θ S Y h hS hY, submatrix_mul_equiv, hM, submatrix_one_equiv]
  obtain ⟨h1, h2⟩ := CompactBridge.block_compact_eq_bfgs θ hθ (pairsOf nn S Y) (pairsOf_curv nn S Y h hcurv)
    (Mm.submatrix finSumFinEquiv finSumFinEquiv) hMb
  refine ⟨?_, h2⟩
  rw [bmat, ← h1, W_eq_buildW nn θ S Y h, transpose_submatrix, submatrix_mul_equiv, submatrix_mul_equiv, submatrix_id_id]

/-- the sizes that the Cauchy and subspace contexts ask of `W` and `Minv`; `pairs_sizes` proves them once for matrices built by
`buildW`, `buildMinv` -/
structure KSizes (i : CauchyIn K) (n k : Nat) : Prop where
  hW : i.W.length = n
  hrow : ∀ r, r < n → (i.W.getD r []).length = k
  hk : kOf i = k
  hM : Sq k i.Minv
  hsym : (wmat k k i.Minv)ᵀ = wmat k k i.Minv

/-- the sizes of `buildW`, `buildMinv`; `2m` is written `(lOf n S Y).length + (lOf n S Y).length` here as in the fixed statements,
so that the index type of `Mm` is the same expression everywhere -/
theorem pairs_sizes (i : CauchyIn K) (n : Nat) (S Y : List (Vec K)) (hn : 0 < n)
    (hWeq : i.W = buildW n i.theta S Y) (hMeq : i.Minv = buildMinv i.theta S Y) (h : S.length = Y.length) :
    KSizes i n ((lOf n S Y).length + (lOf n S Y).length) := by
  have hm := lOf_length n S Y h
  obtain ⟨hWl, hrow, hk⟩ := buildW_sizes i n i.theta S Y hn hWeq
  rw [← h, ← hm] at hrow hk
  refine ⟨hWl, hrow, hk, ⟨by rw [hMeq, buildMinv_length, hm], fun r hr => ?_⟩, ?_⟩
  · rw [hMeq, hm]
    exact buildMinv_row_length _ _ _ r (hm ▸ hr)
  · funext a b
    simp only [transpose_apply, wmat, hMeq]
    exact buildMinv_symm _ _ _ b a (by omega) (by omega)

/-- the subspace context of a subspace input whose `W`, `Minv` are built from positive-curvature pairs: sizes from `pairs_sizes`,
positive definiteness from `kernel_matrix_is_bfgs`; what remains to the caller is the geometry (`xc` in the box, `c = Wᵀ(xc − x)`) -/
theorem subCtxP_of_pairs (i : SubIn K) (n : Nat) (S Y : List (Vec K)) (hn : 0 < n)
    (hWeq : i.W = buildW n i.theta S Y) (hMeq : i.Minv = buildMinv i.theta S Y)
    (hθ : 0 < i.theta) (h : S.length = Y.length)
    (hS : ∀ j, j < S.length → (S.getD j []).length = n) (hY : ∀ j, j < S.length → (Y.getD j []).length = n)
    (hcurv : ∀ j, j < S.length → vec n (S.getD j []) ≠ 0 ∧ 0 < vec n (S.getD j []) ⬝ᵥ vec n (Y.getD j []))
    (Mm : Matrix (Fin ((lOf n S Y).length + (lOf n S Y).length)) (Fin ((lOf n S Y).length + (lOf n S Y).length)) K)
    (hM : Mm * wmat ((lOf n S Y).length + (lOf n S Y).length) ((lOf n S Y).length + (lOf n S Y).length) i.Minv = 1)
    (hx : i.x.length = n) (hg : i.g.length = n) (hxc : i.xc.length = n)
    (hcl : i.c.length = (lOf n S Y).length + (lOf n S Y).length) (box : InBoxF i.lb i.ub i.xc) (uf : i.useFactor = true)
    (hc : vec ((lOf n S Y).length + (lOf n S Y).length) i.c =
      (wmat n ((lOf n S Y).length + (lOf n S Y).length) i.W)ᵀ *ᵥ (vec n i.xc - vec n i.x)) :
    SubCtxP i n _ Mm ∧
      bmat i.theta (wmat n _ i.W) Mm = bfgsChain (i.theta • (1 : Matrix (Fin n) (Fin n) K)) (pairsOf n S Y) := by
  have sz := pairs_sizes i.toCauchyIn n S Y hn hWeq hMeq h
  obtain ⟨hB, hspd⟩ := kernel_matrix_is_bfgs n i.theta S Y hθ h hS hY hcurv Mm (hMeq ▸ hM)
  rw [← hWeq] at hB
  exact ⟨SubCtxP.of_pd hx hg hxc sz.hW sz.hrow hcl box (ne_of_gt hθ) uf sz.hk sz.hM.len sz.hM.row hM hc
    (fun a ha => hB ▸ hspd.2 a ha), hB⟩

/-- **C09** the Newton point of the subspace step (`C09.subspace_newton_point_solved`) for an input built from positive-curvature
pairs: no hypothesis on the solves or on definiteness is left. -/
theorem subspace_newton_point_curv (i : SubIn K) (n : Nat) (S Y : List (Vec K)) (hn : 0 < n)
    (hWeq : i.W = buildW n i.theta S Y) (hMeq : i.Minv = buildMinv i.theta S Y)
    (hθ : 0 < i.theta) (h : S.length = Y.length)
    (hS : ∀ j, j < S.length → (S.getD j []).length = n) (hY : ∀ j, j < S.length → (Y.getD j []).length = n)
    (hcurv : ∀ j, j < S.length → vec n (S.getD j []) ≠ 0 ∧ 0 < vec n (S.getD j []) ⬝ᵥ vec n (Y.getD j []))
    (Mm : Matrix (Fin ((lOf n S Y).length + (lOf n S Y).length)) (Fin ((lOf n S Y).length + (lOf n S Y).length)) K)
    (hM : Mm * wmat ((lOf n S Y).length + (lOf n S Y).length) ((lOf n S Y).length + (lOf n S Y).length) i.Minv = 1)
    (hx : i.x.length = n) (hg : i.g.length = n) (hxc : i.xc.length = n)
    (hcl : i.c.length = (lOf n S Y).length + (lOf n S Y).length) (box : InBoxF i.lb i.ub i.xc) (uf : i.useFactor = true)
    (hc : vec ((lOf n S Y).length + (lOf n S Y).length) i.c =
      (wmat n ((lOf n S Y).length + (lOf n S Y).length) i.W)ᵀ *ᵥ (vec n i.xc - vec n i.x)) :
    ∃ (al : K) (u : Vec K), u.length = n ∧ 0 ≤ al ∧ al ≤ 1 ∧ subspaceMin i = vadd i.xc (smul al u) ∧
      InBoxF i.lb i.ub (subspaceMin i) ∧
      (∀ r, maskF n (freeMask i.xc i.lb i.ub) r = false → vec n u r = 0) ∧
      (∀ r, maskF n (freeMask i.xc i.lb i.ub) r = true →
        (vec n i.g + bmat i.theta (wmat n ((lOf n S Y).length + (lOf n S Y).length) i.W) Mm *ᵥ
          ((vec n i.xc - vec n i.x) + vec n u)) r = 0) :=
  C09.subspace_newton_point_solved i n _ Mm
    (subCtxP_of_pairs i n S Y hn hWeq hMeq hθ h hS hY hcurv Mm hM hx hg hxc hcl box uf hc).1

end Lbfgsb.C10

/-! ### Non-vacuity (ℚ): one stored pair `s = (1, 0)`, `y = (2, 1)` in dimension 2, `θ = 1`: `M⁻¹ = diag(−2, 1)`, and the
theorem applies with `Mm = diag(−½, 1)`. -/
namespace Lbfgsb.C10
open Lbfgsb Matrix CompactKernel

def exS : List (Vec ℚ) := [[1, 0]]
def exY : List (Vec ℚ) := [[2, 1]]
def exMm : Matrix (Fin 2) (Fin 2) ℚ := Matrix.of fun a b => if a = b then (if a = 0 then -1 / 2 else 1) else 0

example : (lOf 2 exS exY).length + (lOf 2 exS exY).length = 2 := rfl

theorem ex_hM : exMm * wmat 2 2 (buildMinv (1 : ℚ) exS exY) = 1 := by decide +kernel

theorem ex_curv : (∀ j, j < exS.length → (exS.getD j []).length = 2) ∧ (∀ j, j < exS.length → (exY.getD j []).length = 2) ∧
    ∀ j, j < exS.length → vec 2 (exS.getD j []) ≠ 0 ∧ 0 < vec 2 (exS.getD j []) ⬝ᵥ vec 2 (exY.getD j []) := by
  decide +kernel

example : SPD (bfgsChain ((1 : ℚ) • (1 : Matrix (Fin 2) (Fin 2) ℚ)) (pairsOf 2 exS exY)) :=
  (kernel_matrix_is_bfgs 2 1 exS exY one_pos rfl ex_curv.1 ex_curv.2.1 ex_curv.2.2 exMm ex_hM).2

end Lbfgsb.C10
