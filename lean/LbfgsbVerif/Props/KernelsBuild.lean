/-
  Sizes and entries of what `kernelInput` (Model/Kernels.lean) builds from a memory snapshot: `W` and `M⁻¹` of
  `buildW` / `buildMinv` (same file), the gradient cut to the length of `x` by `fitTo`. They hold by construction,
  in the arithmetic named, and leave the analytic hypotheses of the kernel theorems as the only ones.
-/
import LbfgsbVerif.Model.Kernels
import LbfgsbVerif.Proofs.C06
import LbfgsbVerif.Proofs.CauchyPath
import LbfgsbVerif.Proofs.Quadratic
import Mathlib.Data.List.GetD

namespace Lbfgsb
variable {K : Type} [Field K]

theorem buildW_length (n : Nat) (θ : K) (S Y : List (Vec K)) : (buildW n θ S Y).length = n := by
  simp [buildW]

theorem buildW_row (n : Nat) (θ : K) (S Y : List (Vec K)) (r : Nat) (hr : r < n) :
    ((buildW n θ S Y).getD r []).length = Y.length + S.length := by
  rw [buildW, getD_map_range _ n r [] hr, List.length_append, List.length_map, List.length_map]

theorem buildMinv_length (θ : K) (S Y : List (Vec K)) : (buildMinv θ S Y).length = S.length + S.length := by
  simp only [buildMinv, List.length_append, List.length_map, List.length_range]

theorem buildMinv_row_length (θ : K) (S Y : List (Vec K)) (r : Nat) (hr : r < S.length + S.length) :
    ((buildMinv θ S Y).getD r []).length = S.length + S.length := by
  have hmem : (buildMinv θ S Y).getD r [] ∈ buildMinv θ S Y := by
    rw [List.getD_eq_getElem _ _ (by rwa [buildMinv_length])]
    exact List.getElem_mem _
  generalize (buildMinv θ S Y).getD r [] = row at hmem ⊢
  simp only [buildMinv, List.mem_append, List.mem_map, List.mem_range] at hmem
  rcases hmem with ⟨i, _, rfl⟩ | ⟨i, _, rfl⟩
  · rw [List.length_append, List.length_map, List.length_map, List.length_range]
  · rw [List.length_append, List.length_map, List.length_map, List.length_range]

variable [LinearOrder K] [IsStrictOrderedRing K]

theorem buildW_sizes (i : CauchyIn K) (n : Nat) (θ : K) (S Y : List (Vec K)) (hn : 0 < n) (hW : i.W = buildW n θ S Y) :
    i.W.length = n ∧ (∀ r, r < n → (i.W.getD r []).length = Y.length + S.length) ∧ kOf i = Y.length + S.length := by
  have hl : i.W.length = n := hW ▸ buildW_length n θ S Y
  have hrow : ∀ r, r < n → (i.W.getD r []).length = Y.length + S.length := fun r hr => by
    rw [hW, buildW_row n θ S Y r hr]
  exact ⟨hl, hrow, (kOf_eq i (hl.symm ▸ hn)).trans (hrow 0 hn)⟩

theorem kernelInput_some (lb ub : Vec K) (e : K) (x g : Vec K) (X G : List (Vec K)) (hX : X.length > 1) :
    kernelInput x g lb ub (some (X, G)) e =
      { x, g := fitTo x g, lb, ub, theta := thetaOf X G, W := buildW x.length (thetaOf X G) (diffs X) (diffs G),
        Minv := buildMinv (thetaOf X G) (diffs X) (diffs G), useFactor := true, epsFsec := e } := by
  simp only [kernelInput, hX, if_true]

theorem kernelInput_sizes (x g lb ub : Vec K) (X G : List (Vec K)) (e : K) (hX : X.length > 1)
    (hXG : X.length = G.length) (hn : 0 < x.length) :
    let i := kernelInput x g lb ub (some (X, G)) e
    i.W.length = x.length ∧ (∀ r, r < x.length → (i.W.getD r []).length = 2 * (X.length - 1)) ∧
      kOf i = 2 * (X.length - 1) ∧ i.useFactor = true ∧ i.x = x ∧ i.g = fitTo x g := by
  intro i
  have hi := kernelInput_some lb ub e x g X G hX
  obtain ⟨hW, hrow, hk⟩ := buildW_sizes i x.length _ (diffs X) (diffs G) hn (congrArg CauchyIn.W hi)
  have e2 : (diffs G).length + (diffs X).length = 2 * (X.length - 1) := by
    rw [diffs_length, diffs_length, hXG]
    omega
  rw [e2] at hrow hk
  exact ⟨hW, hrow, hk, congrArg CauchyIn.useFactor hi, congrArg CauchyIn.x hi, congrArg CauchyIn.g hi⟩

/-- entry `(a, b)` of `M⁻¹ = [[−D, Lᵀ], [L, θ SᵀS]]` -/
def minvEntry (θ : K) (S Y : List (Vec K)) (a b : Nat) : K :=
  let m := S.length
  if a < m then
    if b < m then (if a = b then -(dot (S.getD a []) (Y.getD a [])) else 0)
    else (if b - m > a then dot (S.getD (b - m) []) (Y.getD a []) else 0)
  else
    if b < m then (if a - m > b then dot (S.getD (a - m) []) (Y.getD b []) else 0)
    else θ * dot (S.getD (a - m) []) (S.getD (b - m) [])

theorem getD_range_append {A : Type} (f g : Nat → A) (m j : Nat) (d : A) (hj : j < 2 * m) :
    ((List.range m).map f ++ (List.range m).map g).getD j d = if j < m then f j else g (j - m) := by
  split
  · rename_i h
    rw [List.getD_append _ _ _ _ (by simpa using h), getD_map_range _ _ _ _ h]
  · rename_i h
    rw [List.getD_append_right _ _ _ _ (by simpa using not_lt.1 h), List.length_map, List.length_range,
      getD_map_range _ _ _ _ (by omega)]

theorem buildMinv_entry (θ : K) (S Y : List (Vec K)) (a b : Nat) (ha : a < 2 * S.length) (hb : b < 2 * S.length) :
    ((buildMinv θ S Y).getD a []).getD b 0 = minvEntry θ S Y a b := by
  unfold buildMinv minvEntry
  dsimp only
  rw [getD_range_append _ _ _ a [] ha, apply_ite (fun row : Vec K => row.getD b 0), getD_range_append _ _ _ b 0 hb,
    getD_range_append _ _ _ b 0 hb]

/-- the stored `M⁻¹` is symmetric; so, by C08 `middle_symm`, is the middle matrix `M` it is the inverse of -/
theorem buildMinv_symm (θ : K) (S Y : List (Vec K)) (a b : Nat) (ha : a < 2 * S.length) (hb : b < 2 * S.length) :
    ((buildMinv θ S Y).getD a []).getD b 0 = ((buildMinv θ S Y).getD b []).getD a 0 := by
  rw [buildMinv_entry θ S Y a b ha hb, buildMinv_entry θ S Y b a hb ha]
  unfold minvEntry
  dsimp only
  by_cases ham : a < S.length
  · by_cases hbm : b < S.length
    · rw [if_pos ham, if_pos hbm, if_pos hbm, if_pos ham]
      by_cases hab : a = b
      · subst hab
        rfl
      · rw [if_neg hab, if_neg (Ne.symm hab)]
    · rw [if_pos ham, if_neg hbm, if_neg hbm, if_pos ham]
  · by_cases hbm : b < S.length
    · rw [if_neg ham, if_pos hbm, if_pos hbm, if_neg ham]
    · rw [if_neg ham, if_neg hbm, if_neg hbm, if_neg ham, dot_comm]

section U
variable {α : Type} [LinearOrder α] [Add α] [Sub α] [Mul α] [Div α] [Neg α] [OfNat α 0] [OfNat α 1]

theorem fitTo_length (x g : Vec α) : (fitTo x g).length = x.length := by simp [fitTo]

theorem fitTo_eq (x g : Vec α) (h : g.length = x.length) : fitTo x g = g := by
  apply ext_getD (0 : α)
  · rw [fitTo_length, h]
  · intro j hj
    rw [fitTo_length] at hj
    unfold fitTo
    rw [getD_map_range _ _ _ _ hj]

theorem kernelInput_fields (x g lb ub : Vec α) (m : Mats α) (e : α) :
    (kernelInput x g lb ub m e).x = x ∧ (kernelInput x g lb ub m e).lb = lb ∧ (kernelInput x g lb ub m e).ub = ub ∧
      (kernelInput x g lb ub m e).g = fitTo x g ∧ (kernelInput x g lb ub m e).W.length = x.length := by
  unfold kernelInput
  dsimp only
  cases m with
  | none => exact ⟨rfl, rfl, rfl, rfl, List.length_map _⟩
  | some p =>
    obtain ⟨X, G⟩ := p
    dsimp only
    split
    · exact ⟨rfl, rfl, rfl, rfl, by simp [buildW]⟩
    · exact ⟨rfl, rfl, rfl, rfl, List.length_map _⟩

theorem kernelInput_none (lb ub : Vec α) (e : α) (x g : Vec α) (hg : g.length = x.length) :
    kernelInput x g lb ub none e =
      { x, g, lb, ub, theta := 1, W := x.map fun _ => [0], Minv := [[0]], useFactor := false, epsFsec := e } := by
  simp only [kernelInput, fitTo_eq x g hg]

end U

end Lbfgsb
