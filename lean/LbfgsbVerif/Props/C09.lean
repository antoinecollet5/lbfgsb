/-
  C09 — subspace minimisation (`subspacemin.py : subspace_minimization`, Model/Subspace.lean `subspaceMin`) returns the
  box-truncated Newton point of the model. Here: what holds of the model in any arithmetic (level U), the step bound `α*`
  (level F), and, over any field, the Sherman–Morrison–Woodbury identity behind the small `2m × 2m` system, under the
  exact-solve hypothesis `M · M⁻¹ = 1` (the leading minus of `d̂ = −θ⁻¹(r̂ + θ⁻¹ Ŵ v)` is the one subspacemin.py:421 notes as
  missing in the paper). Model value and descent are in Props/C09Model and Props/C09Run; the numerical equality with the
  dense Newton solve is decided by the correspondence and the search.
-/
import LbfgsbVerif.Model.Subspace
import LbfgsbVerif.Proofs.C11
import Mathlib.Data.Matrix.Mul
import Mathlib.Algebra.Order.Field.Rat

namespace Lbfgsb.C09
open Lbfgsb

section U
variable {α : Type} [LinearOrder α] [Add α] [Sub α] [Mul α] [Div α] [Neg α] [OfNat α 0] [OfNat α 1]

theorem freeMask_length (xc lb ub : Vec α) (h1 : lb.length = xc.length) (h2 : ub.length = xc.length) :
    (freeMask xc lb ub).length = xc.length := by
  induction xc generalizing lb ub with
  | nil => rfl
  | cons a as ih =>
    obtain ⟨l, ls, rfl⟩ := List.exists_cons_of_length_eq_add_one h1
    obtain ⟨u, us, rfl⟩ := List.exists_cons_of_length_eq_add_one h2
    exact congrArg Nat.succ (ih ls us (Nat.succ.inj h1) (Nat.succ.inj h2))

/-- `Z @ dHat` of the source, at list level -/
def maskedDir {α : Type} [OfNat α 0] (d : Vec α) (mask : List Bool) : Vec α :=
  (d.zip mask).map fun (p : α × Bool) => if p.2 then p.1 else 0

theorem maskedDir_length {α : Type} [OfNat α 0] (d : Vec α) (mask : List Bool) :
    (maskedDir d mask).length = min d.length mask.length := by
  rw [maskedDir, List.length_map, List.length_zip]

theorem subspaceMin_shape (i : SubIn α) : ∃ (d : Vec α) (al : α),
    subspaceMin i = (if !((freeMask i.xc i.lb i.ub).any id) then i.xc else
      clip (vadd i.xc (smul al (maskedDir d (freeMask i.xc i.lb i.ub)))) i.lb i.ub) ∧
    ((freeMask i.xc i.lb i.ub).length = i.xc.length → i.g.length = i.xc.length → i.x.length = i.xc.length →
      i.W.length = i.xc.length → d.length = i.xc.length) := by
  -- `rfl` against the `if … else clip …` shape: splitting the unfolded `let` chain is slow to check
  refine ⟨_, _, rfl, fun hm hg hxx hW => ?_⟩
  simp only [List.length_map, List.length_zip, hm, hW, Nat.min_self, apply_ite List.length, vadd_length, vsub_length,
    smul_length, hg, hxx, ite_self]

/-- **C09** none free ⇒ `x̄ = x_cp`. -/
theorem none_free (i : SubIn α) (h : (freeMask i.xc i.lb i.ub).any id = false) :
    subspaceMin i = i.xc := by
  obtain ⟨d, al, hs, -⟩ := subspaceMin_shape i
  rw [hs, h]
  rfl

/-- **C09** the returned point is in the box, exactly — whatever the memory and the rounding. -/
theorem xbar_in_box (i : SubIn α) (hb : BoxOk i.lb i.ub) (hx : InBox i.lb i.ub i.xc)
    (hg : i.g.length = i.xc.length) (hxx : i.x.length = i.xc.length) (hW : i.W.length = i.xc.length) :
    InBox i.lb i.ub (subspaceMin i) := by
  obtain ⟨hxl, hul⟩ := inBox_length hx
  have hm := freeMask_length i.xc i.lb i.ub hxl hul
  obtain ⟨d, al, h, hd⟩ := subspaceMin_shape i
  rw [h]
  split
  · exact hx
  · exact clip_inBox hb _ (by
      rw [vadd_length, smul_length, maskedDir_length, hd hm hg hxx hW, hm, Nat.min_self, Nat.min_self, hxl])

theorem masked_step (hmul0 : ∀ a : α, a * 0 = 0) (hadd0 : ∀ a : α, a + 0 = a)
    (xc d lb ub : Vec α) (mask : List Bool) (al : α) (hx : InBox lb ub xc) (j : Nat)
    (hj : mask[j]? = some false) (hjd : j < d.length) :
    (clip (vadd xc (smul al (maskedDir d mask))) lb ub)[j]?
      = xc[j]? := by
  fun_induction InBox lb ub xc generalizing d mask j with
  | case1 => rfl
  | case2 l ls u us a as ih =>
    obtain ⟨b, bs, rfl⟩ := List.exists_cons_of_ne_nil (List.ne_nil_of_length_pos (Nat.zero_lt_of_lt hjd))
    obtain ⟨m, ms, rfl⟩ := List.exists_cons_of_ne_nil (fun h : mask = [] => by simp [h] at hj)
    cases j with
    | zero =>
      obtain rfl : m = false := Option.some.inj hj
      show some (clip1 l u (a + al * 0)) = some a
      rw [hmul0, hadd0, clip1_of_mem hx.1.1 hx.1.2]
    | succ j => exact ih bs ms hx.2 j hj (Nat.lt_of_succ_lt_succ hjd)
  | case3 => exact hx.elim

/-- **C09** a variable on a bound at the Cauchy point is not moved (`a·0 = 0`, `a + 0 = a` are exact in IEEE
arithmetic for finite `a`). -/
theorem active_fixed (hmul0 : ∀ a : α, a * 0 = 0) (hadd0 : ∀ a : α, a + 0 = a) (i : SubIn α)
    (hx : InBox i.lb i.ub i.xc) (j : Nat) (hj : (freeMask i.xc i.lb i.ub)[j]? = some false)
    (hg : i.g.length = i.xc.length) (hxx : i.x.length = i.xc.length) (hW : i.W.length = i.xc.length) :
    (subspaceMin i)[j]? = i.xc[j]? := by
  obtain ⟨hxl, hul⟩ := inBox_length hx
  have hm := freeMask_length i.xc i.lb i.ub hxl hul
  obtain ⟨d, al, h, hd⟩ := subspaceMin_shape i
  rw [h]
  split
  · rfl
  · refine masked_step hmul0 hadd0 i.xc d i.lb i.ub _ al hx j hj ?_
    rw [hd hm hg hxx hW, ← hm]
    exact (List.getElem?_eq_some_iff.1 hj).1

end U

section ordered
variable {α : Type} [Field α] [LinearOrder α] [IsStrictOrderedRing α]

attribute [local instance] fieldFloatLike in
/-- on a direction that vanishes on the active variables the step candidates are those of `max_allowed_steplength` (C11) -/
theorem alphaStar_cand_masked (xc d lb ub : Vec α) (mask : List Bool) :
    alphaStar.cand xc (maskedDir d mask) lb ub mask = maxAllowedStep.cand xc (maskedDir d mask) lb ub := by
  induction xc generalizing d lb ub mask with
  | nil => rfl
  | cons xi xs ih =>
    cases d with
    | nil => rfl
    | cons di ds =>
      cases mask with
      | nil => rfl
      | cons m ms =>
        cases lb with
        | nil => rfl
        | cons li ls =>
          cases ub with
          | nil => rfl
          | cons ui us =>
            rw [show maskedDir (di :: ds) (m :: ms) = (if m then di else 0) :: maskedDir ds ms from rfl, alphaStar.cand,
              maxAllowedStep.cand, ih]
            -- masked out: the coordinate is `0` and both skip it; free: the same ratio, and every field element is finite
            cases m with
            | false => simp [feq_iff]
            | true => simp [FloatLike.isFinite]

attribute [local instance] fieldFloatLike in
theorem feasible_of_le_cand (xc d lb ub : Vec α) (mask : List Bool) (hx : InBoxF lb ub xc)
    (hd : d.length = xc.length) (hm : mask.length = xc.length)
    (a : α) (h0 : 0 ≤ a)
    (ha : ∀ t ∈ alphaStar.cand xc (maskedDir d mask) lb ub mask, a ≤ t) :
    InBoxF lb ub (vadd xc (smul a (maskedDir d mask))) :=
  Lbfgsb.feasible_of_le_cand xc _ lb ub hx (by rw [maskedDir_length, hd, hm, Nat.min_self]) a h0
    (by rwa [← alphaStar_cand_masked])

/-- **C09** (exact arithmetic) `α* ≤ 1` and every step `0 ≤ a ≤ α*` along the masked direction stays in the box: the
final `clip` only absorbs rounding. -/
theorem alpha_star_feasible (xc d lb ub : Vec α) (mask : List Bool) (hx : InBoxF lb ub xc)
    (hd : d.length = xc.length) (hm : mask.length = xc.length) (a : α) (h0 : 0 ≤ a)
    (ha : a ≤ alphaStar xc ((d.zip mask).map fun (p : α × Bool) => if p.2 then p.1 else 0) lb ub mask) :
    InBoxF lb ub (vadd xc (smul a ((d.zip mask).map fun (p : α × Bool) => if p.2 then p.1 else 0))) ∧
      alphaStar xc ((d.zip mask).map fun (p : α × Bool) => if p.2 then p.1 else 0) lb ub mask ≤ 1 := by
  obtain ⟨h1, h2⟩ := (le_foldl_fmin_iff
    (alphaStar.cand xc (maskedDir d mask) lb ub mask) (1 : α) _).1 le_rfl
  exact ⟨feasible_of_le_cand xc d lb ub mask hx hd hm a h0 (fun t ht => le_trans ha (h2 t ht)), h1⟩

example : alphaStar ([0, 1] : Vec ℚ) [2, 0] [-1, -1] [1, 1] [true, false] = 1 / 2 := by
  decide +kernel

end ordered

section field
open Matrix
variable {t k : Type} [Fintype t] [Fintype k] [DecidableEq t] [DecidableEq k]
variable {K : Type} [Field K]

/-- of `M` only the solved form `v = M Ŵᵀ(r̂ + θ⁻¹ Ŵ v)` of the small system is used -/
theorem smw_of_fixpoint (W : Matrix t k K) (M : Matrix k k K) (θ : K) (hθ : θ ≠ 0) (r : t → K) (v : k → K)
    (hv : v = M *ᵥ (Wᵀ *ᵥ (r + (1 / θ) • (W *ᵥ v)))) :
    (θ • (1 : Matrix t t K) - W * M * Wᵀ) *ᵥ (-(1 / θ) • (r + (1 / θ) • (W *ᵥ v))) = -r := by
  have hu : (W * M * Wᵀ) *ᵥ (r + (1 / θ) • (W *ᵥ v)) = W *ᵥ v := by
    rw [← mulVec_mulVec, ← mulVec_mulVec, ← hv]
  -- `θ(r + θ⁻¹ W v) − W v = θ r`
  rw [mulVec_smul, sub_mulVec, smul_mulVec, one_mulVec, hu, smul_add, smul_smul, mul_one_div_cancel hθ, one_smul,
    add_sub_cancel_right, smul_smul, neg_mul, one_div_mul_cancel hθ, neg_one_smul]

/-- **C09** Sherman–Morrison–Woodbury: if `v` solves the small system `(M⁻¹ − θ⁻¹ WᵀW) v = Wᵀ r` then
`d = −θ⁻¹(r + θ⁻¹ W v)` solves `B d = −r` for `B = θI − W M Wᵀ`; with `W`, `r` masked this is the direction of the source. -/
theorem smw_direction (W : Matrix t k K) (M Minv : Matrix k k K) (hM : M * Minv = 1)
    (θ : K) (hθ : θ ≠ 0) (r : t → K) (v : k → K)
    (hK : (Minv - (1 / θ) • (Wᵀ * W)) *ᵥ v = Wᵀ *ᵥ r) :
    (θ • (1 : Matrix t t K) - W * M * Wᵀ) *ᵥ (-(1 / θ) • (r + (1 / θ) • (W *ᵥ v))) = -r := by
  refine smw_of_fixpoint W M θ hθ r v ?_
  -- from the small system: `M⁻¹ v = Ŵᵀ r̂ + θ⁻¹ ŴᵀŴ v`; multiply by `M`
  rw [sub_mulVec, smul_mulVec, ← mulVec_mulVec, sub_eq_iff_eq_add] at hK
  rw [mulVec_add, mulVec_smul, ← hK, mulVec_mulVec, hM, one_mulVec]

end field

end Lbfgsb.C09
