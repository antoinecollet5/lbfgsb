/-
  C12 — on unconstrained problems the iterates are those of reference Algorithm 778.
  What a theorem can carry here is the part of "being a port of Algorithm 778" that is a matter of constants and formulas (tables
  regenerated from the source on every run by `translate/defaults2lean.py`): `ftol = 1e-3`, `gtol = 0.9`, `xtol = 0.1` for the
  Moré–Thuente search, `eps_SY = 2.2e-16` for the curvature test, `maxcor = 10`, `maxls = 20`; `theta = yᵀy / sᵀy` of the newest pair;
  first trial step `min(1/‖d‖, stpmax)` at the first iteration of a problem without a full box, `1` otherwise. The documented
  deviations are theorems about the model: `iter0_step_cap`, and C03 `ls_strict_decrease` / C11 `ls_result_downhill` (the accepted
  step is the lowest trial strictly below the start, not the last one). That the *sequence of evaluation points* coincides with the
  reference implementation shipped in SciPy is decided by the differential check against it; the quasi-Newton point is Props/C12Newton.
-/
import LbfgsbVerif.Generated.Defaults
import LbfgsbVerif.Model.Shell
import LbfgsbVerif.Model.Compact

namespace Lbfgsb.C12
open Generated.Defaults

theorem linesearch_constants_are_reference :
    minimizeDefaults.lookup "ftol_linesearch" = some "0.001" ∧
    minimizeDefaults.lookup "gtol_linesearch" = some "0.9" ∧
    minimizeDefaults.lookup "xtol_linesearch" = some "0.1" ∧
    minimizeDefaults.lookup "eps_SY" = some "2.2e-16" ∧
    lineSearchDefaults.lookup "ftol" = some "0.001" ∧
    lineSearchDefaults.lookup "gtol" = some "0.9" ∧
    lineSearchDefaults.lookup "xtol" = some "0.1" := by decide +kernel

theorem memory_defaults_are_reference :
    minimizeDefaults.lookup "maxcor" = some "10" ∧ minimizeDefaults.lookup "maxls" = some "20" ∧
    minimizeDefaults.lookup "max_steplength" = some "100000000.0" ∧
    minimizeDefaults.lookup "ftol" = some "1e-05" ∧ minimizeDefaults.lookup "gtol" = some "1e-05" ∧
    minimizeDefaults.lookup "maxiter" = some "50" ∧ minimizeDefaults.lookup "maxfun" = some "15000" := by
  decide +kernel

/-- The scaling of the initial matrix, as written in bfgsmats.py. -/
theorem theta_formula_is_reference : thetaFormula = "yTy / sTy" := by decide +kernel

/-- The first trial step, as written in linesearch.py. -/
theorem first_step_formula_is_reference :
    firstStepFormula = "min(1.0 / np.sqrt(d.dot(d)), max_steplength) | 1.0" := by decide +kernel

section model
variable {α : Type} [Add α] [Sub α] [Mul α] [Div α] [Neg α] [LT α] [DecidableLT α]
  [OfNat α 0] [OfNat α 1]

theorem theta_model (X G : List (Vec α)) (s y : Vec α) (hs : (diffs X).getLast? = some s)
    (hy : (diffs G).getLast? = some y) : thetaOf X G = dot y y / dot s y := by
  simp [thetaOf, hs, hy]

theorem iter0_step_cap [FloatLike α] (x d lb ub : Vec α) (maxStep : α) :
    maxAllowedStep x d lb ub maxStep 0 = 1 :=
  if_pos rfl

end model

example : thetaOf ([[0, 0], [1, 2]] : List (Vec Int)) [[0, 0], [2, 2]] = 8 / 6 := by decide +kernel

end Lbfgsb.C12
