/-
  C04/C01 — the stationarity measure used by the `pgtol` stop test, the infinity norm of the projected gradient, does not depend on
  where the origin of the variables is put (`projgr_shift`: translating `x`, `lb`, `ub` by the same constant leaves it unchanged) and
  is homogeneous (`projgr_smul`: `x`, `g`, `lb`, `ub` all multiplied by `b > 0` multiply it by `b`).
-/
import LbfgsbVerif.Proofs.VecMap

namespace Lbfgsb.C04
open Lbfgsb Lbfgsb.Units
variable {K : Type} [Field K] [LinearOrder K] [IsStrictOrderedRing K]

/-- **C04 (origin)** — `x`, `lb`, `ub` translated by one constant: the norm of the projected gradient is unchanged -/
theorem projgr_shift (c : K) (x g lb ub : Vec K) :
    projgr (x.map (· + c)) g (lb.map (· + c)) (ub.map (· + c)) = projgr x g lb ub := by
  unfold projgr
  rw [C08.vsub_shift_left, C08.clip_shift, C09.vsub_shift_both]

example : projgr ([0, 3].map (· + 7)) [2, -5] ([-1, -1].map (· + 7)) ([1, 4].map (· + 7)) = (1 : ℚ) :=
  (projgr_shift 7 _ _ _ _).trans (by decide +kernel)

/-- **C04 (units)** — so the `pgtol` test scales with the problem and with nothing else -/
theorem projgr_smul (b : K) (hb : 0 < b) (x g lb ub : Vec K) :
    projgr (smul b x) (smul b g) (smul b lb) (smul b ub) = b * projgr x g lb ub := by
  unfold projgr
  rw [vsub_smul, Lbfgsb.Units.clip_smul b hb, vsub_smul, maxAbs_smul hb]

example : projgr (smul 3 [0, 3]) (smul 3 [2, -5]) (smul 3 [-1, -1]) (smul 3 [1, 4]) = (3 : ℚ) :=
  (projgr_smul 3 (by decide +kernel) _ _ _ _).trans (by decide +kernel)

end Lbfgsb.C04
