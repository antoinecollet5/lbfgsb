/-
  C17 in the finite-difference modes (level F, exact arithmetic): the finite-difference gradient of
  the scaled objective `s·f` is `s` times the finite-difference gradient of `f` — same stencil
  (the points do not depend on the values), values multiplied by `s`. With C17 `scaler_equivalence`:
  a scaler and an explicitly scaled objective are equivalent in exact arithmetic in every gradient
  mode; in floating point the two differ by rounding.
-/
import LbfgsbVerif.Model.FD
import Mathlib.Tactic.Ring

namespace Lbfgsb.C17
open Lbfgsb.FD
variable {K : Type} [Field K] [LinearOrder K]

theorem deriv1_linear (s : Scheme) (x h lb ub f0 c : K) (vals : List K) :
    deriv1 s x h lb ub (c * f0) (vals.map (c * ·)) = c * deriv1 s x h lb ub f0 vals := by
  match s, vals with
  | .two, [f1] =>
    simp only [deriv1, List.map_cons, List.map_nil]
    rw [← mul_sub, mul_div_assoc]
  | .three, [f1, f2] =>
    simp only [deriv1, List.map_cons, List.map_nil]
    split
    · rw [← mul_div_assoc]
      congr 1
      ring
    · rw [← mul_sub, mul_div_assoc]
  -- a wrong number of values: both sides are `0`
  | .two, [] | .two, _ :: _ :: _ | .three, [] | .three, [_] | .three, _ :: _ :: _ :: _ =>
    exact (mul_zero c).symm

theorem gradGo_linear (s : Scheme) (hOf : K → K) (f0 c : K) (k : Nat) (xs ls us vals : List K) :
    grad.go s hOf (c * f0) k xs ls us (vals.map (c * ·)) =
      (grad.go s hOf f0 k xs ls us vals).map (c * ·) := by
  induction xs generalizing ls us vals with
  | nil => rfl
  | cons xi xs ih =>
    rcases ls with _ | ⟨li, ls⟩
    · rfl
    rcases us with _ | ⟨ui, us⟩
    · rfl
    have e := deriv1_linear s xi (hOf xi) li ui f0 c (vals.take k)
    rw [List.map_take] at e
    have ih := ih ls us (vals.drop k)
    rw [List.map_drop] at ih
    -- both sides are a `cons` by computation: compare heads and tails
    refine (congrArg₂ List.cons ?_ ih).trans (List.map_cons ..).symm
    rw [e, mul_ite, mul_zero]

variable [IsStrictOrderedRing K]

/-- **C17 (FD modes)** `FD(s·f) = s·FD(f)` -/
theorem fd_scaling_linear (s : Scheme) (hOf : K → K) (x lb ub : Vec K) (f0 c : K) (vals : List K) :
    grad s hOf x lb ub (c * f0) (vals.map (c * ·)) = (grad s hOf x lb ub f0 vals).map (c * ·) := by
  unfold grad
  exact gradGo_linear s hOf f0 c _ x lb ub vals

end Lbfgsb.C17
