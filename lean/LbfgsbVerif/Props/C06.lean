/-
  C06 — restarting from a returned result continues the run as if it had not stopped.

  Level F (exact arithmetic in a commutative additive group; the property itself says "up to
  rounding"). The history reconstructed from a checkpoint `(x, sk)` — past points
  `x - Σ_{j ≥ i} sk[j]`, in chronological order — has the stored pairs as differences
  (`restore_pairs`; a history restored in reverse order makes this false), and conversely
  (`restore_roundtrip`) the restart holds the memory of the uninterrupted run, so the next search
  point, a function of `(x, g, memory)`, is the same.
  What a theorem cannot give: bit-equality (the reconstruction rounds) — that part is decided
  by the correspondence check (bit-exact replay of `initialize_X_and_G` through `restoreXG`)
  and by the search (pairs / next iterate compared with a tolerance).
  Excluded case, recorded as a candidate finding (K4): a result whose `x` is not the end of
  its stored history (newest candidate pair rejected, or stop by `break`).
-/
import LbfgsbVerif.Proofs.C06

namespace Lbfgsb.C06
variable {α : Type} [AddCommGroup α]

/-- **C06 (1)** the memory restored from a result holds the result's pairs (a restart that
performs no iteration returns the same correction pairs). -/
theorem restore_pairs (x : Vec α) (sk : List (Vec α)) (h : AllLen x.length sk) :
    diffs ((revCumsum sk).map (vsub x ·) ++ [x]) = sk :=
  diffs_restore x sk h

theorem eq_of_diffs_last (n : Nat) (A B : List (Vec α)) (hA : AllLen n A) (hB : AllLen n B)
    (hl : A.length = B.length) (hd : diffs A = diffs B) (hlast : A.getLast? = B.getLast?) :
    A = B := by
  induction A generalizing B with
  | nil => exact (List.eq_nil_of_length_eq_zero hl.symm).symm
  | cons a as ih =>
    obtain ⟨b, bs, rfl⟩ := List.exists_cons_of_length_eq_add_one hl.symm
    cases as with
    | nil =>
      obtain rfl := List.eq_nil_of_length_eq_zero (Nat.succ.inj hl).symm
      exact congrArg (· :: []) (Option.some.inj hlast)
    | cons a₂ as =>
      obtain ⟨b₂, bs, rfl⟩ := List.exists_cons_of_length_eq_add_one (Nat.succ.inj hl).symm
      obtain ⟨la, hA'⟩ := List.forall_mem_cons.1 hA
      obtain ⟨lb, hB'⟩ := List.forall_mem_cons.1 hB
      obtain ⟨hd₁, hd₂⟩ := List.cons.inj hd
      obtain ⟨rfl, rfl⟩ := List.cons.inj (ih (b₂ :: bs) hA' hB' (Nat.succ.inj hl) hd₂ hlast)
      have l₂ : a₂.length = n := hA' a₂ (List.mem_cons_self ..)
      -- the tails agree; a head is its successor minus the first difference, `a = a₂ − (a₂ − a)`
      have e := vsub_self_sub a₂ a (la.trans l₂.symm)
      rw [hd₁, vsub_self_sub a₂ b (lb.trans l₂.symm)] at e
      rw [e]

variable [Mul α] [LT α] [DecidableLT α]

/-- **C06 (2)** after the restore (`restoreXG`, the source's `initialize_X_and_G`) and the re-insertion of the
current point (`updateMats`) the deques hold the most recent `maxcor` pairs, in order, and the snapshot is
rebuilt from them -/
theorem restore_keeps_most_recent (x jac : Vec α) (sk yk : List (Vec α)) (maxcor : Nat) (eps : α)
    (hs : AllLen x.length sk) (hy : AllLen jac.length yk) (hlen : sk.length = yk.length)
    (hne : sk ≠ [])
    (hcurv : curvOk x jac (lastD (restoreXG x jac sk yk maxcor).1)
      (lastD (restoreXG x jac sk yk maxcor).2) eps = true) :
    let r := restoreXG x jac sk yk maxcor
    let m := updateMats x jac r.1 r.2 maxcor none eps
    diffs m.1 = sk.drop (sk.length - maxcor) ∧ diffs m.2.1 = yk.drop (yk.length - maxcor) ∧
      m.2.2.1 = some (m.1, m.2.1) ∧ m.2.2.2 = true := by
  obtain ⟨e1, e2, e3, e4⟩ := restart_deques x jac sk yk maxcor eps hlen hne hcurv
  refine ⟨?_, ?_, e3, e4⟩
  · rw [e1, diffs_drop, diffs_restore x sk hs]
  · rw [e2, diffs_drop, diffs_restore jac yk hy]

/-- **C06 (3) — round trip** (the excluded case, `x` not the end of the stored history, is K4) -/
theorem restore_roundtrip (X : List (Vec α)) (x : Vec α) (h : AllLen x.length (X ++ [x])) :
    (revCumsum (diffs (X ++ [x]))).map (vsub x ·) ++ [x] = X ++ [x] := by
  have hd := diffs_allLen x.length (X ++ [x]) h
  have hr := revCumsum_allLen x.length _ hd
  apply eq_of_diffs_last x.length _ _ ?_ h ?_ ?_ ?_
  · refine allLen_append_one (fun v hv => ?_) rfl
    obtain ⟨c, hc, rfl⟩ := List.mem_map.1 hv
    rw [vsub_length, hr c hc, Nat.min_self]
  · simp [revCumsum_length, diffs_length]
  · exact diffs_restore x _ hd
  · simp

/-! ### Non-vacuity: a concrete checkpoint over `ℤ` with three pairs, restored with memory 2. -/
def xZ : Vec Int := [10, 20]
def skZ : List (Vec Int) := [[1, 2], [3, -1], [2, 2]]

example : AllLen xZ.length skZ := by
  unfold AllLen
  decide

example : (revCumsum skZ).map (vsub xZ ·) = [[4, 17], [5, 19], [8, 18]] := by decide +kernel
example : diffs ((revCumsum skZ).map (vsub xZ ·) ++ [xZ]) = skZ := by decide +kernel
example : (revCumsum (diffs [[4, 17], [5, 19], [8, 18], xZ])).map (vsub xZ ·) ++ [xZ] = [[4, 17], [5, 19], [8, 18], xZ] := by
  decide +kernel

end Lbfgsb.C06
