/-
  C03 — the objective never increases from one accepted iterate to the next.

  Level U. `*` (the scaling of values by the wrapper) and every other arithmetic operation is
  uninterpreted; what is used is the order, and that the user's objective is a *function*
  (asking twice at the same point gives the same value). DCSRCH is an arbitrary oracle: the
  theorems hold whatever step lengths and task codes it answers, for every evaluation cap.
-/
import LbfgsbVerif.Proofs.C03
import Mathlib.Data.Int.Order.Basic

namespace Lbfgsb.C03
variable {α ε δ : Type}
variable [LinearOrder α] [Add α] [Sub α] [Mul α] [Div α] [Neg α] [OfNat α 0] [OfNat α 1]
  [FloatLike α]

/-- **C03 (1) — the line search is strictly downhill or fails.** Whatever the stepper answers
and whatever the cap on evaluations, `line_search` returns `None` or a step `stp` such that the
user's objective at the trial point `clip(x0 + stp·d)`, times the scaling factor, is strictly
below the value `f0` it started from. -/
theorem ls_strict_decrease (u : User α ε) (o : Oracles α δ) (c : Cfg α) (x0 : Vec α) (f0 : α)
    (g0 d : Vec α) (nit : Nat) (sf sf' : SF α) (maxIter : Nat) (olog olog' : List (OReq α))
    (stp : α) (hc : Coh u.toSFUser sf)
    (h : lineSearch u o c x0 f0 g0 d nit sf maxIter olog = .ok (sf', some stp, olog')) :
    ∃ v, u.F (trial x0 d c.lb c.ub stp) = .ok v ∧ v * sf.scale < f0 :=
  (lineSearch_sum hc h).downhill stp rfl

/-- **C03 (2) — a failed line search leaves the iterate where it was** (point, value and
gradient), whether the memory is reset or the run aborts. -/
theorem failed_ls_keeps_x (s s' : St α) (flow : Flow) (h : iterFail s = (s', flow)) :
    s'.x = s.x ∧ s'.f = s.f ∧ s'.g = s.g := by
  rcases iterFail_ok h with ⟨-, -, rfl⟩ | ⟨-, -, rfl⟩
  · exact ⟨rfl, rfl, rfl⟩
  · exact ⟨rfl, rfl, rfl⟩

/-- **C03 (3) — monotone sequence of accepted values.** With a fixed objective (no update
function) the values at the start of the loop, in every state handed to the callback (in
order) and in the result form a non-increasing list — for every objective, box, start,
`maxls`, `maxfun`, `maxcor`, every kernel and stepper behaviour. -/
theorem accepted_monotone (u : User α ε) (o : Oracles α δ) (c : Cfg α) (hU : c.hasUpdate = false)
    (r : Result α) (s : St α) (h : minimize u o c = .ok (r, s)) :
    ∃ i, initEval u c = .ok i ∧
      ((targetReached (i.f0 / i.sf.scale) i.ftarget = true ∧ s.cbStates = [] ∧ r.f = i.f0) ∨
       (∃ s0, prepare u c i = .ok s0 ∧ NonInc (s0.f :: (s.cbStates.map (·.f) ++ [r.f])))) := by
  -- the invariant carries the state the loop started from, whose value heads the list
  rcases minimize_inv
    (I := fun t => ∃ i s0, initEval u c = .ok i ∧ prepare u c i = .ok s0 ∧ Coh u.toSFUser t.sf ∧
      NonInc (s0.f :: (t.cbStates.map (·.f) ++ [t.f])))
    (fun i s0 hi h0 => ⟨i, s0, hi, h0,
      (prepare_sum (initEval_sum hi).coh h0).inv.coh,
      by simp [prepare_cbs h0, NonInc]⟩)
    (fun t t' flow ⟨i, s0, hi, h0, hc, hn⟩ _ hb => ⟨i, s0, hi, h0, (iterBody_sf hc hb).coh,
      iterBody_nonInc hU hc hn hb⟩) h with
    ⟨i, hi, ht, he⟩ | ⟨s1, t, su, w, ⟨i, s0, hi, h0, -, hn⟩, rfl, rfl⟩
  · obtain ⟨hf, hcb, -⟩ := earlyResult_sum (initEval_sum hi) he
    exact ⟨i, hi, Or.inl ⟨ht, hcb, hf⟩⟩
  · exact ⟨i, hi, Or.inr ⟨s0, h0, hn⟩⟩

/-- **C03 (4)** consequently the returned objective value is never worse than the one the
loop started from. -/
theorem result_le_start (u : User α ε) (o : Oracles α δ) (c : Cfg α) (hU : c.hasUpdate = false)
    (r : Result α) (s : St α) (i : Init α) (s0 : St α) (hi : initEval u c = .ok i)
    (h0 : prepare u c i = .ok s0) (ht : targetReached (i.f0 / i.sf.scale) i.ftarget = false)
    (h : minimize u o c = .ok (r, s)) : ¬ s0.f < r.f := by
  obtain ⟨i', hi', hcase⟩ := accepted_monotone u o c hU r s h
  obtain rfl := Except.ok.inj (hi.symm.trans hi')
  rcases hcase with ⟨ht', -, -⟩ | ⟨s0', h0', hmono⟩
  · simp [ht] at ht'
  · obtain rfl := Except.ok.inj (h0.symm.trans h0')
    exact NonInc.head_le_last _ _ _ hmono

instance : FloatLike ℤ := ⟨id, fun _ => true⟩

def uZ : User ℤ String where
  F x := .ok (dot x x)
  Gr x := .ok (smul 2 x)
  fdPts _ _ := []
  fdComb _ _ _ := []
  callback _ := .ok false
  update i := .ok ⟨i.f0, i.f0Old, i.grad, i.G⟩
  scaler _ _ := .ok 1
  ftargetFn _ := .ok (-5)
  gtolFn _ := .ok 0

/-- stepper: first proposes an uphill step (7), then 1, then stops with a warning -/
def oZ : Oracles ℤ Nat where
  xbar x _ _ := x.map (· - 1)
  dcNew _ _ _ _ _ _ := 0
  dcIter n _ _ _ _ := if n = 0 then (1, 7, .fg) else if n = 1 then (2, 1, .fg) else (n + 1, 1, .warn)

def cZ : Cfg ℤ :=
  { x0 := [3, 2], lb := [-10, -10], ub := [10, 10], mode := .callable, maxcor := 3, maxiter := 2,
    maxfun := 20, maxls := 4, ftol := 0, gtol := .const 0, ftarget := none, maxStep := 100,
    ftolLS := 0, gtolLS := 1, xtolLS := 0, epsSY := 0, hasCallback := true, hasUpdate := false,
    hasScaler := false, checkpoint := none }

/-- the run evaluates an uphill trial in each line search (41 > 13, then 61 > 5) and still produces
the decreasing sequence 13, 5, 1. -/
example : ∃ r s, minimize uZ oZ cZ = .ok (r, s) ∧ s.cbStates.map (·.f) = [5, 1] ∧ r.f = 1 ∧
    r.nfev = 5 :=
  exists_ok_of_decide (by decide +kernel)

end Lbfgsb.C03
