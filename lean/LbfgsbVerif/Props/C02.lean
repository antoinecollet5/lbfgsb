/-
  C02 — every evaluated, reported and returned point lies inside the box, exactly.

  Level U. The theorems use *no law of arithmetic*: `x + α·d` may be rounded in any way, the
  kernels (`xbar`) and the stepper may return anything (of the right length). What makes the
  statement true is that every point that reaches a user callable, a callback state or the
  result is the value of a `clip` (or the checkpoint's point, itself the clipped start), and
  `lb ≤ ub`. Finite-difference stencil points are chosen by SciPy's `approx_derivative`:
  they are covered under its contract (`Ctx2.stencil`), which the harness monitors.
-/
import LbfgsbVerif.Proofs.C02
import Mathlib.Data.Int.Order.Basic

namespace Lbfgsb.C02
variable {α ε δ : Type}
variable [LinearOrder α] [Add α] [Sub α] [Mul α] [Div α] [Neg α] [OfNat α 0] [OfNat α 1]
  [FloatLike α]

/-- **C02 (1)** every point at which a user callable is invoked — objective, gradient
(finite-difference stencil points included), callback, update function, scaler — every state
handed to the callback and the returned solution satisfy `lb ≤ x ≤ ub` component-wise. -/
theorem evals_in_box (u : User α ε) (o : Oracles α δ) (c : Cfg α) (hctx : Ctx2 u o c)
    (r : Result α) (s : St α) (h : minimize u o c = .ok (r, s)) :
    (∀ call ∈ s.sf.log, call.kind ≠ .ftarget → call.kind ≠ .gtol → InBox c.lb c.ub call.arg) ∧
    (∀ cb ∈ s.cbStates, InBox c.lb c.ub cb.x) ∧
    InBox c.lb c.ub r.x := by
  have hx0 := clip_x0_inBox hctx
  have main : (∀ call ∈ s.sf.log, PointOk c call) ∧ (∀ cb ∈ s.cbStates, InBox c.lb c.ub cb.x) ∧
      InBox c.lb c.ub r.x := by
    rcases minimize_inv (I := fun t => Coh u.toSFUser t.sf ∧ BoxInv c t)
      (fun i s0 hi h0 =>
        have is := initEval_sum hi
        have ⟨hix, hil⟩ := initEval_pointOk hctx hi
        ⟨(prepare_sum is.coh h0).inv.coh, prepare_boxInv hctx hix hil is.coh h0⟩)
      (fun t t' flow ⟨hc, i2⟩ _ hb =>
        ⟨(iterBody_sf hc hb).coh, iterBody_boxInv hctx i2 hc hb⟩) h with
      ⟨i, hi, -, he⟩ | ⟨s1, t, su, w, ⟨-, i2⟩, rfl, rfl⟩
    · obtain ⟨hix, hil⟩ := initEval_pointOk hctx hi
      rcases earlyResult_cases c i with ⟨ck, hck, e⟩ | ⟨-, t, e, rfl⟩
      · obtain ⟨rfl, rfl⟩ := Prod.mk.inj (he.trans e)
        exact ⟨hil, by simp [Init.state], hctx.ck_x ck hck ▸ hx0⟩
      · obtain ⟨rfl, rfl⟩ := Prod.mk.inj (he.trans e)
        exact ⟨hil, by simp [Init.state], show InBox c.lb c.ub i.x from hix ▸ hx0⟩
    · exact ⟨i2.log, i2.cbs, i2.x_in⟩
  exact ⟨fun call hc h1 h2 => ((main.1 call hc).resolve_left h1).resolve_left h2, main.2⟩

omit [Add α] [Sub α] [Mul α] [Div α] [Neg α] [OfNat α 0] [OfNat α 1] [FloatLike α] in
/-- **C02 (2)** components with `lb == ub` never move: a point in the box equals the bound
there. (Combined with `evals_in_box` this covers every evaluated, reported, returned point.) -/
theorem fixed_never_move (lb ub p : Vec α) (h : InBox lb ub p) (i : Nat) (hi : i < p.length)
    (hl : i < lb.length) (hu : i < ub.length) (hfix : lb[i] = ub[i]) : p[i] = lb[i] := by
  fun_induction InBox lb ub p generalizing i with
  | case1 => exact absurd hi (Nat.not_lt_zero _)
  | case2 l ls u us q qs ih =>
    cases i with
    | zero => exact le_antisymm (le_of_le_of_eq (not_lt.1 h.1.2) hfix.symm) (not_lt.1 h.1.1)
    | succ j =>
      exact ih h.2 j (Nat.lt_of_succ_lt_succ hi) (Nat.lt_of_succ_lt_succ hl)
        (Nat.lt_of_succ_lt_succ hu) hfix
  | case3 => exact h.elim

omit [Add α] [Sub α] [Mul α] [Div α] [Neg α] [OfNat α 0] [OfNat α 1] [FloatLike α] in
/-- **C02 (3)** the mechanism: clipping lands in the box whatever its argument is —
"not even by one unit in the last place". -/
theorem clip_lands_in_box (lb ub x : Vec α) (hb : BoxOk lb ub) (hx : x.length = lb.length) :
    InBox lb ub (clip x lb ub) := clip_inBox hb x hx

instance : FloatLike ℤ := ⟨id, fun _ => true⟩

def uZ : User ℤ String where
  F x := .ok (dot x x)
  Gr x := .ok (smul 2 x)
  fdPts _ _ := []
  fdComb _ _ _ := []
  callback _ := .ok false
  update i := .ok ⟨i.f0, i.f0Old, i.grad, i.G⟩
  scaler _ _ := .ok 1
  ftargetFn _ := .ok (-5)
  gtolFn _ := .ok 0

/-- a kernel that ignores the box: `xbar = x - 1` in every component, also the fixed one -/
def oZ : Oracles ℤ Nat where
  xbar x _ _ := x.map (· - 1)
  dcNew _ _ _ _ _ _ := 0
  dcIter n stp _ _ _ := if n = 0 then (1, stp, .fg) else (n + 1, stp, .conv)

def cZ : Cfg ℤ :=
  { x0 := [3, -4], lb := [-10, -4], ub := [10, -4], mode := .callable, maxcor := 3, maxiter := 5,
    maxfun := 20, maxls := 4, ftol := 0, gtol := .const 0, ftarget := none, maxStep := 100,
    ftolLS := 0, gtolLS := 1, xtolLS := 0, epsSY := 0, hasCallback := true, hasUpdate := false,
    hasScaler := false, checkpoint := none }

/-- the hypotheses of `evals_in_box` hold for this configuration… -/
example : Ctx2 uZ oZ cZ where
  box := by simp [BoxOk, cZ]
  n := by decide
  xbar_len := by
    intro x g m _
    simp [oZ]
  stencil := by
    intro x f _ p hp
    simp [uZ] at hp
  ck_x := by
    intro ck h
    cases h

/-- …and the run moves: three accepted steps, the degenerate component stays at `-4` although
the kernel asks for `-5`. -/
example : ∃ r s, minimize uZ oZ cZ = .ok (r, s) ∧ r.x = [0, -4] ∧ r.nit = 3 ∧ r.msg = .pgtol :=
  exists_ok_of_decide (by decide +kernel)

end Lbfgsb.C02
