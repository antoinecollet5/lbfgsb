/-
  C18 — two consumer-visible consequences of "the operator is built from the stored pairs" (any ordered field): it maps the newest
  `y` to the newest `s`, whatever the initial matrix and the older pairs (checked on the real `hess_inv` of every explored result,
  harness/props/c18.py); and, SciPy's `LbfgsInvHessProduct` starting from the identity, it is the inverse of the BFGS matrix of the
  pairs started from the identity — NOT of the matrix the solver worked with, which starts from `θ I` (C10 `kernel_matrix_is_bfgs`;
  its inverse is the same recursion started from `θ⁻¹ I`, C12 `inv_chain_inverts_bfgs_chain`). The two coincide when `θ = 1`.
-/
import LbfgsbVerif.Proofs.BfgsInverse

namespace Lbfgsb.C18
open Matrix Lbfgsb
variable {n : Type} [Fintype n] [DecidableEq n]
variable {K : Type} [Field K] [LinearOrder K] [IsStrictOrderedRing K]

/-- **C18** the returned operator satisfies the secant equation of the newest pair, `H y = s`, whatever the initial matrix and the
older pairs. -/
theorem hess_inv_secant (H : Matrix n n K) (ps : List ((n → K) × (n → K))) (p : (n → K) × (n → K))
    (h : 0 < p.1 ⬝ᵥ p.2) : twoLoop H (ps ++ [p]) p.2 = p.1 := by
  rw [two_loop_eq_chain, chainF_append, invUpd_secant _ _ _ (ne_of_gt h)]

/-- **C18** the returned operator is the inverse of the identity-started BFGS matrix of the pairs. -/
theorem hess_inv_is_inverse_bfgs (ps : List ((n → K) × (n → K))) (hp : ∀ p ∈ ps, p.1 ≠ 0 ∧ 0 < p.1 ⬝ᵥ p.2) (x : n → K) :
    twoLoop (1 : Matrix n n K) ps (C10.bfgsChain (1 : Matrix n n K) ps *ᵥ x) = x := by
  have h1 : C10.SPD (1 : Matrix n n K) := by
    have := C10.scaled_identity_spd (n := n) (1 : K) one_pos
    rwa [one_smul] at this
  exact BfgsInverse.two_loop_inverts 1 1 h1 (mul_one 1) ps (fun p h => (hp p h).2) x

/-- non-vacuity: one pair `s = (1, 0)`, `y = (2, 1)` -/
example : twoLoop (1 : Matrix (Fin 2) (Fin 2) ℚ) ([] ++ [((![1, 0] : Fin 2 → ℚ), (![2, 1] : Fin 2 → ℚ))]) ![2, 1] = ![1, 0] :=
  hess_inv_secant 1 [] ((![1, 0] : Fin 2 → ℚ), (![2, 1] : Fin 2 → ℚ)) (by decide +kernel)

end Lbfgsb.C18
