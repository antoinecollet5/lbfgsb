/-
  C06 / C07 — "for every split point": the hypothesis `Restartable` of `restart_continues` is an
  invariant of the loop-head states of a fresh run as long as every correction pair is accepted
  (exact arithmetic); `restart_at_every_split` combines this with `restart_continues`.

  A rejected pair is excluded on purpose: the state then no longer ends its stored history with the
  current point and a restart differs (known finding K4). A failed line search is excluded by the same
  hypothesis (the point does not move, so the curvature test of the "pair" fails).
  Hypotheses on the environment: the user's gradient has the length of its argument (`GradLen`), the
  kernels return a point of the length of the iterate (`XbarLen`; `xbarLen_concrete`, from
  `xbarModel_inBox`, for the concrete kernels), `lb ≤ ub`, `maxcor ≥ 1`, no update function, callbacks
  that let the run go on.
  Also here, and used by Props/C01Run and C12Run: `GradLen`, `XbarLen`, `EnvOk` (what the run-level
  invariants share), `curvOk_self`.
-/
import LbfgsbVerif.Props.C06Sim
import LbfgsbVerif.Props.Kernels

namespace Lbfgsb.C06
variable {K ε δ : Type} [Field K] [LinearOrder K]
attribute [local instance] fieldFloatLike

def GradLen (u : User K ε) (c : Cfg K) : Prop :=
  ∀ x g, gradSpec u.toSFUser c.lb c.ub c.mode x = .ok g → g.length = x.length

theorem GradLen.scaled {u : User K ε} {c : Cfg K} (hgl : GradLen u c) {sf : SF K} {x g0 : Vec K} (sc : K)
    (hm : sf.mode = c.mode) (hlb : sf.lb = c.lb) (hub : sf.ub = c.ub)
    (hg0 : gradSpec u.toSFUser sf.lb sf.ub sf.mode x = .ok g0) : (vscale g0 sc).length = x.length :=
  (List.length_map _).trans (hgl x g0 (hm ▸ hlb ▸ hub ▸ hg0))

/-- `Restartable` together with the facts needed to carry it through an iteration -/
structure RInv (u : User K ε) (c : Cfg K) (s : St K) (a : K) : Prop where
  re : ∃ X' G', Restartable c s X' G' a
  coh : Coh u.toSFUser s.sf
  glen : s.g.length = s.x.length
  xlen : s.x.length = c.lb.length

/-- what the run-level invariants share -/
structure EnvOk (u : User K ε) (c : Cfg K) (x g : Vec K) (sf : SF K) : Prop where
  coh : Coh u.toSFUser sf
  sf_mode : sf.mode = c.mode
  sf_lb : sf.lb = c.lb
  sf_ub : sf.ub = c.ub
  sf_scale : sf.scale = 1
  xlen : x.length = c.lb.length
  glen : g.length = x.length
  inbox : clip x c.lb c.ub = x

theorem EnvOk.afterLS {u : User K ε} {o : Oracles K δ} {c : Cfg K} {x g d g0 : Vec K} {f : K} {nit n : Nat}
    {sf sfL : SF K} {ol ol' : List (OReq K)} {stp? : Option K} (hi : EnvOk u c x g sf)
    (hls : lineSearch u o c x f g0 d nit sf n ol = .ok (sfL, stp?, ol')) : EnvOk u c x g sfL := by
  have ls := lineSearch_sum hi.coh hls
  exact ⟨ls.coh, ls.mode.trans hi.sf_mode, ls.lb_eq.trans hi.sf_lb, ls.ub_eq.trans hi.sf_ub,
    ls.scale.trans hi.sf_scale, hi.xlen, hi.glen, hi.inbox⟩

theorem RInv.env {u : User K ε} {c : Cfg K} {s : St K} {a : K} (hi : RInv u c s a) : EnvOk u c s.x s.g s.sf :=
  let ⟨_, _, hs⟩ := hi.re
  ⟨hi.coh, hs.sf_mode, hs.sf_lb, hs.sf_ub, hs.sf_scale, hi.xlen, hi.glen, hs.inbox⟩

theorem RInv.ofEnv {u : User K ε} {c : Cfg K} {s : St K} {X' G' : List (Vec K)} {a : K} (env : EnvOk u c s.x s.g s.sf)
    (sf_x : s.sf.x = s.x) (hX : s.X = X' ++ [s.x]) (hG : s.G = G' ++ [s.g]) (lenX : AllLen s.x.length (X' ++ [s.x]))
    (lenG : AllLen s.g.length (G' ++ [s.g])) (hlen : X'.length = G'.length) (hb : X'.length ≤ c.maxcor)
    (curv : X' ≠ [] → curvOk s.x s.g (lastD X') (lastD G') c.epsSY = true)
    (mats : s.mats = if s.X.length > 1 then some (s.X, s.G) else none)
    (hf : s.task = .start ∧ s.success = false ∧ s.warnflag = 2 ∧ s.ftarget = none ∧ s.gtol = a) : RInv u c s a :=
  ⟨⟨X', G', hX, hG, lenX, lenG, hlen, hb, curv, mats, env.sf_mode, env.sf_lb, env.sf_ub, env.sf_scale, sf_x, hf.1, hf.2.1,
    hf.2.2.1, hf.2.2.2.1, hf.2.2.2.2, env.inbox⟩, env.coh, env.glen, env.xlen⟩

theorem RInv.frame {u : User K ε} {c : Cfg K} {s : St K} {a : K} (hi : RInv u c s a) (lg : List (Call K))
    (cbs : List (Result K)) (n : Nat) {su : Bool} (hsu : su = false) :
    RInv u c { s with sf := { s.sf with log := lg }, cbStates := cbs, nit := n, success := su } a :=
  let ⟨X', G', hs⟩ := hi.re
  ⟨⟨X', G', { hs with success := hsu }⟩, hi.coh, hi.glen, hi.xlen⟩

theorem vsub_self_zeros (g : Vec K) : vsub g g = g.map fun _ => (0 : K) := by
  induction g with
  | nil => rfl
  | cons a as ih =>
    simp only [vsub, vzip, List.map_cons, sub_self, List.cons.injEq, true_and] at ih ⊢
    exact ih

-- up to here `K` is a field with a linear order that nothing ties to the arithmetic; from here on, an ordered field
variable [IsStrictOrderedRing K]

theorem curvOk_self (x g : Vec K) (eps : K) : curvOk x g x g eps = false := by
  unfold curvOk
  simp only [vsub_self_zeros, dot_zeros, mul_zero, lt_self_iff_false, decide_false]

theorem EnvOk.afterTrial {u : User K ε} {o : Oracles K δ} {c : Cfg K} (hbox : BoxOk c.lb c.ub) (hgl : GradLen u c)
    {x g d g0 : Vec K} {f : K} {nit n : Nat} {sf sfL : SF K} {ol ol' : List (OReq K)} {stp? : Option K} {stp : K}
    {e : SF K × K × Vec K} (hi : EnvOk u c x g sf) (hd : d.length = x.length)
    (hls : lineSearch u o c x f g0 d nit sf n ol = .ok (sfL, stp?, ol'))
    (he : sfL.funAndGrad u.toSFUser (trial x d c.lb c.ub stp) = .ok e) :
    EnvOk u c (trial x d c.lb c.ub stp) e.2.2 e.1 ∧ e.1.x = trial x d c.lb c.ub stp ∧
      (trial x d c.lb c.ub stp).length = x.length := by
  have hL := hi.afterLS hls
  obtain ⟨es, -, gg, hg0, hgv⟩ := funAndGrad_sum hL.coh he
  have hin := trial_inBox hbox x d stp hi.xlen hd
  have hl : (trial x d c.lb c.ub stp).length = x.length := (inBox_length hin).1.symm.trans hi.xlen.symm
  refine ⟨⟨es.coh, es.mode.trans hL.sf_mode, es.lb.trans hL.sf_lb, es.ub.trans hL.sf_ub,
    es.scale.trans hL.sf_scale, hl.trans hi.xlen, ?_, clip_of_inBox hin⟩, es.x_eq, hl⟩
  rw [hgv]
  exact hgl.scaled _ hL.sf_mode hL.sf_lb hL.sf_ub hg0

/-- **an accepted iteration preserves restartability**. Not an instance of `iterBody_rule`: `Restartable` reads
the flags, holds only after an accepted pair, and `hacc` relates `s'` to `s` — the successor state is read off
`iterBody_cases` -/
theorem iterBody_rinv (u : User K ε) (o : Oracles K δ) (c : Cfg K) (hcb : ∀ r, u.callback r = .ok false)
    (hU : c.hasUpdate = false) (hm : 1 ≤ c.maxcor) (hbox : BoxOk c.lb c.ub) (hgl : GradLen u c)
    (s s' : St K) (a : K) (hi : RInv u c s a)
    (hxb : (o.xbar s.x s.g s.mats).length = s.x.length)
    (h : iterBody u o c s = .ok (s', .next))
    (hacc : curvOk s'.x s'.g s.x s.g c.epsSY = true) : RInv u c s' a := by
  have env := hi.env
  obtain ⟨⟨X', G', hs⟩, -, hgl0, -⟩ := hi
  have hd : (vsub (o.xbar s.x s.g s.mats) s.x).length = s.x.length := by rw [vsub_length, hxb, Nat.min_self]
  obtain ⟨sfL, stp?, olog, hls, hc⟩ := iterBody_cases h
  obtain ⟨-, -, hf, -⟩ | ⟨-, -, -, rfl⟩ | hc := hc
  · cases hf
  · -- a failed line search does not move the point: its "pair" fails the test
    rw [curvOk_self] at hacc
    exact absurd hacc (by decide)
  obtain ⟨stp, x', sf, f, g, s0, -, hx', he, hs0, hrest⟩ := hc
  obtain ⟨env1, hsfx, hl⟩ := env.afterTrial hbox hgl hd hls (hx' ▸ he)
  rw [← hx'] at env1 hsfx hl
  obtain rfl : s0 = _ := (hs0.resolve_right fun h' => absurd (hU.symm.trans h'.1) (by decide)).2
  have key : curvOk x' g s.x s.g c.epsSY = true →
      RInv u c (memStep c { s with x := x', f := f, g := g, sf := sf, olog := olog }) a := by
    intro hacc
    have hXG : s.X.length = s.G.length := by
      rw [hs.hX, hs.hG, List.length_append, List.length_append, hs.hlen]
      rfl
    have hacc' : curvOk x' g (lastD s.X) (lastD s.G) c.epsSY = true := by
      rw [hs.hX, hs.hG, lastD_append_one, lastD_append_one]
      exact hacc
    obtain ⟨k, -, hkb, hlen', hcurv, e⟩ := memStep_push c { s with x := x', f := f, g := g, sf := sf, olog := olog } hm
      hXG (hs.hX ▸ List.append_ne_nil_of_right_ne_nil _ (List.cons_ne_nil _ _)) hacc'
    have hlenX : AllLen x'.length s.X := by
      rw [hl, hs.hX]
      exact hs.lenX
    have hlenG : AllLen g.length s.G := by
      rw [env1.glen, hl, ← hgl0, hs.hG]
      exact hs.lenG
    have hb : (s.X.drop k).length ≤ c.maxcor := by
      rw [List.length_drop]
      apply hkb
      rw [hs.hX, List.length_append]
      exact Nat.succ_le_succ hs.hb
    rw [e]
    exact RInv.ofEnv (X' := s.X.drop k) (G' := s.G.drop k) env1 hsfx rfl rfl
      (allLen_append_one (allLen_drop hlenX k) rfl) (allLen_append_one (allLen_drop hlenG k) rfl) hlen' hb
      (fun _ => hcurv) rfl ⟨hs.task, hs.success, hs.warnflag, hs.ftarget, hs.gtol⟩
  -- the callback answers "go on": called or not, the new state is the memory step up to ghost fields
  rcases hrest with ⟨hf, -⟩ | ⟨-, rfl | ⟨b, -, -, hb, rfl⟩⟩
  · cases hf
  · exact (key hacc).frame sf.log s.cbStates _ hs.success
  · obtain rfl : b = false := Except.ok.inj (hb.symm.trans (hcb _))
    exact (key hacc).frame _ _ _ rfl

def XbarLen (o : Oracles K δ) (c : Cfg K) : Prop :=
  ∀ x g m, x.length = c.lb.length → clip x c.lb c.ub = x → (o.xbar x g m).length = x.length

/-- **the state a fresh run enters its loop with is restartable** -/
theorem fresh_rinv (u : User K ε) (c : Cfg K) (a : K) (hck : c.checkpoint = none) (hS : c.hasScaler = false)
    (hU : c.hasUpdate = false) (hT : c.ftarget = none) (hg : c.gtol = .const a) (hbox : BoxOk c.lb c.ub)
    (hx0 : c.x0.length = c.lb.length) (hgl : GradLen u c) (i : Init K) (s : St K)
    (hi : initEval u c = .ok i) (hp : prepare u c i = .ok s) : RInv u c s a := by
  obtain ⟨sf, f0, he, rfl⟩ := initEval_plain hT hg hi
  obtain ⟨-, he⟩ := (firstEval_ok he).resolve_right fun ⟨_, h', _⟩ => nomatch hck.symm.trans h'
  obtain ⟨sf2, g, he2, rfl⟩ := prepare_plain hS hU hp
  obtain ⟨-, he2⟩ := (firstGrad_ok he2).resolve_right fun ⟨_, h', _⟩ => nomatch hck.symm.trans h'
  obtain ⟨es, -⟩ := funv_sum (new_coh u.toSFUser c.mode _ c.lb c.ub) he
  obtain ⟨es2, ⟨g0, hg0, hgv⟩, -⟩ := gradv_sum es.coh he2
  have hxl : (clip c.x0 c.lb c.ub).length = c.lb.length := by rw [clip_length, hx0]
  have hgl2 : (vscale g sf2.scale).length = (clip c.x0 c.lb c.ub).length := by
    rw [vscale, List.length_map, hgv]
    exact hgl.scaled _ es.mode es.lb es.ub hg0
  simp only [initMemory, hck, Init.state, List.length_nil, gt_iff_lt, Nat.lt_irrefl, if_false]
  exact RInv.ofEnv (X' := []) (G' := [])
    ⟨es2.coh, es2.mode.trans es.mode, es2.lb.trans es.lb, es2.ub.trans es.ub, es2.scale.trans es.scale, hxl, hgl2,
      clip_of_inBox (clip_inBox hbox _ hx0)⟩
    es2.x_eq rfl rfl (allLen_cons.2 ⟨rfl, allLen_nil _⟩) (allLen_cons.2 ⟨rfl, allLen_nil _⟩) rfl (Nat.zero_le _)
    (fun h => absurd rfl h) (by simp) ⟨rfl, rfl, rfl, rfl, rfl⟩

/-- loop-head states reached from `s0` through iterations that go on and whose correction pair passes
the curvature test (so that it is stored) -/
inductive AccReach (u : User K ε) (o : Oracles K δ) (c : Cfg K) (s0 : St K) : St K → Prop
  | refl : AccReach u o c s0 s0
  | step {s s' : St K} : AccReach u o c s0 s → guard c s = true → iterBody u o c s = .ok (s', .next) →
      curvOk s'.x s'.g s.x s.g c.epsSY = true → AccReach u o c s0 s'

theorem reach_rinv (u : User K ε) (o : Oracles K δ) (c : Cfg K) (hcb : ∀ r, u.callback r = .ok false)
    (hU : c.hasUpdate = false) (hm : 1 ≤ c.maxcor) (hbox : BoxOk c.lb c.ub) (hgl : GradLen u c) (hxb : XbarLen o c)
    (s0 s : St K) (a : K) (h0 : RInv u c s0 a) (hr : AccReach u o c s0 s) : RInv u c s a := by
  induction hr with
  | refl => exact h0
  | step _ _ hb hacc ih =>
    obtain ⟨X', G', hs⟩ := ih.re
    exact iterBody_rinv u o c hcb hU hm hbox hgl _ _ a ih (hxb _ _ _ ih.xlen hs.inbox) hb hacc

theorem mainLoop_of_reach (u : User K ε) (o : Oracles K δ) (c : Cfg K) (s0 s : St K)
    (hr : AccReach u o c s0 s) : ∃ k, ∀ fuel, mainLoop u o c (fuel + k) s0 = mainLoop u o c fuel s := by
  induction hr with
  | refl => exact ⟨0, fun _ => rfl⟩
  | step _ hg hb _ ih =>
    obtain ⟨k, hk⟩ := ih
    exact ⟨k + 1, fun fuel => by rw [← Nat.add_assoc, Nat.add_right_comm, hk, mainLoop_next fuel hg hb]⟩

/-- **C06 / C07 (every split point)** a fresh run (no scaler, update function or target; constant `gtol`;
callbacks that let it go on) reaches the loop-head state `s` after some iterations, every correction pair
so far having been stored. Stopping there and restarting from the result (or from the callback state — the
same snapshot) gives a run whose loop, for any number `fuel` of further iterations, computes exactly what the
uninterrupted run computes with `fuel` further iterations — up to the ghost logs and the wrapper's cache. -/
theorem restart_at_every_split (u : User K ε) (o : Oracles K δ) (c : Cfg K) (a : K)
    (hck : c.checkpoint = none) (hS : c.hasScaler = false) (hU : c.hasUpdate = false) (hT : c.ftarget = none)
    (hg : c.gtol = .const a) (hcb : ∀ r, u.callback r = .ok false) (hm : 1 ≤ c.maxcor) (hbox : BoxOk c.lb c.ub)
    (hx0 : c.x0.length = c.lb.length) (hgl : GradLen u c) (hxb : XbarLen o c)
    (i0 : Init K) (s0 s : St K) (hi0 : initEval u c = .ok i0) (hp0 : prepare u c i0 = .ok s0)
    (hr : AccReach u o c s0 s)
    (i : Init K) (sB : St K)
    (hi : initEval u { c with checkpoint := some s.result, x0 := s.x } = .ok i)
    (hp : prepare u { c with checkpoint := some s.result, x0 := s.x } i = .ok sB)
    (hfe : guard c s = true → FirstEval o c s.x s.f s.g (vsub (o.xbar s.x s.g s.mats) s.x) s.nit
      (min c.maxls (c.maxfun - s.sf.nfev))) :
    ∃ k, ∀ fuel, (mainLoop u o c (fuel + k) s0).map St.er2 =
      (mainLoop u o { c with checkpoint := some s.result, x0 := s.x } fuel sB).map St.er2 := by
  have h0 := fresh_rinv u c a hck hS hU hT hg hbox hx0 hgl i0 s0 hi0 hp0
  have hs := reach_rinv u o c hcb hU hm hbox hgl hxb s0 s a h0 hr
  obtain ⟨X', G', hre⟩ := hs.re
  obtain ⟨k, hk⟩ := mainLoop_of_reach u o c s0 s hr
  refine ⟨k, fun fuel => ?_⟩
  rw [hk fuel]
  exact restart_continues u o c s X' G' a s.result hre (snapshot_result s) hS hU hT hg hcb i sB hi hp fuel hfe

theorem xbarLen_concrete [Dcsrch.DcOps K] (c : Cfg K) (e : K) (hbox : BoxOk c.lb c.ub) :
    XbarLen (concreteOracles c.lb c.ub e) c := by
  intro x g m hl hx
  have hin : InBox c.lb c.ub x := hx ▸ clip_inBox hbox x hl
  have := xbarModel_inBox c.lb c.ub hbox e x g m hin
  show (xbarModel c.lb c.ub e x g m).length = x.length
  rw [← (inBox_length this).1, ← (inBox_length hin).1]

/-- **C06 / C07 (every split point, complete model)** `restart_at_every_split` for the complete executable model — the
kernels and the stepper are the concrete ones, no hypothesis on them is left -/
theorem restart_at_every_split_complete [Dcsrch.DcOps K] (u : User K ε) (c : Cfg K) (e a : K)
    (hck : c.checkpoint = none) (hS : c.hasScaler = false) (hU : c.hasUpdate = false) (hT : c.ftarget = none)
    (hg : c.gtol = .const a) (hcb : ∀ r, u.callback r = .ok false) (hm : 1 ≤ c.maxcor) (hbox : BoxOk c.lb c.ub)
    (hx0 : c.x0.length = c.lb.length) (hgl : GradLen u c)
    (i0 : Init K) (s0 s : St K) (hi0 : initEval u c = .ok i0) (hp0 : prepare u c i0 = .ok s0)
    (hr : AccReach u (concreteOracles c.lb c.ub e) c s0 s)
    (i : Init K) (sB : St K)
    (hi : initEval u { c with checkpoint := some s.result, x0 := s.x } = .ok i)
    (hp : prepare u { c with checkpoint := some s.result, x0 := s.x } i = .ok sB)
    (hfe : guard c s = true → FirstEval (concreteOracles c.lb c.ub e) c s.x s.f s.g
      (vsub ((concreteOracles c.lb c.ub e).xbar s.x s.g s.mats) s.x) s.nit (min c.maxls (c.maxfun - s.sf.nfev))) :
    ∃ k, ∀ fuel, (mainLoop u (concreteOracles c.lb c.ub e) c (fuel + k) s0).map St.er2 =
      (mainLoop u (concreteOracles c.lb c.ub e) { c with checkpoint := some s.result, x0 := s.x } fuel sB).map St.er2 :=
  restart_at_every_split u _ c a hck hS hU hT hg hcb hm hbox hx0 hgl (xbarLen_concrete c e hbox) i0 s0 s hi0 hp0 hr i sB hi hp hfe

/-! ### Non-vacuity (ℚ): on the instance of `C06Sim` the fresh run's first iteration goes on and its pair is
stored, so `AccReach` holds of a state other than the start, and all environment hypotheses hold. -/

def simCheck : Bool :=
  match initEval simUser simCfg with
  | .ok i0 =>
    match prepare simUser simCfg i0 with
    | .ok s0 =>
      guard simCfg s0 &&
        (match iterBody simUser simOracles simCfg s0 with
         | .ok (s1, .next) => curvOk s1.x s1.g s0.x s0.g simCfg.epsSY && decide (s1.nit = 1)
         | _ => false)
    | _ => false
  | _ => false

theorem simCheck_true : simCheck = true := by decide +kernel

theorem sim_start : ∃ i0 s0, initEval simUser simCfg = .ok i0 ∧ prepare simUser simCfg i0 = .ok s0 :=
  exists_ok_bind (by decide +kernel)

example : ∃ i0 s0 s1, initEval simUser simCfg = .ok i0 ∧ prepare simUser simCfg i0 = .ok s0 ∧
    AccReach simUser simOracles simCfg s0 s1 ∧ s1.nit = 1 := by
  obtain ⟨i0, s0, hi0, hp0⟩ := sim_start
  have h := simCheck_true
  simp only [simCheck, hi0, hp0, Bool.and_eq_true] at h
  obtain ⟨hg, h⟩ := h
  split at h
  · rename_i s1 hb
    simp only [Bool.and_eq_true, decide_eq_true_eq] at h
    exact ⟨i0, s0, s1, hi0, hp0, AccReach.step AccReach.refl hg hb h.1, h.2⟩
  · cases h

theorem sim_gradLen : GradLen simUser simCfg := by
  intro x g h
  simp only [gradSpec, simCfg, simUser, Except.ok.injEq] at h
  rw [← h]

theorem sim_boxOk : BoxOk simCfg.lb simCfg.ub := by
  simp only [simCfg, BoxOk]
  decide +kernel

example : GradLen simUser simCfg := sim_gradLen

example : XbarLen simOracles simCfg := by
  intro x g m _ _
  simp [simOracles, smul]

example : BoxOk simCfg.lb simCfg.ub := sim_boxOk

end Lbfgsb.C06
