/-
  C16/C02 at run level: with the model of the differencing routine as the source of the stencil
  points, the contract `Ctx2.stencil` that C02 assumes is a theorem (C16 `fd_points_in_box`), so
  the whole-run statement "every user evaluation is inside the box" holds in finite-difference
  mode without any assumption on the differencing — for ANY arithmetic (level U).
-/
import LbfgsbVerif.Props.C02
import LbfgsbVerif.Props.C16

namespace Lbfgsb.C16
open Lbfgsb.FD

variable {α ε δ : Type}
variable [LinearOrder α] [Add α] [Sub α] [Mul α] [Div α] [Neg α] [OfNat α 0] [OfNat α 1]
  [FloatLike α]

/-- **C16 (run level)** finite-difference runs: every point at which the user's objective is
evaluated — stencil points included —, every callback state and the result are inside the box;
`fdPts` is the model of the package's differencing (scheme `sch`, step rule `hOf`). -/
theorem evals_in_box_fd (u : User α ε) (o : Oracles α δ) (c : Cfg α) (sch : Scheme) (hOf : α → α)
    (hfd : ∀ x f, u.fdPts x f = points sch hOf x c.lb c.ub)
    (hbox : BoxOk c.lb c.ub) (hn : c.x0.length = c.lb.length)
    (hxbar : ∀ x g m, InBox c.lb c.ub x → (o.xbar x g m).length = x.length)
    (hck : ∀ ck, c.checkpoint = some ck → ck.x = clip c.x0 c.lb c.ub)
    (r : Result α) (s : St α) (h : minimize u o c = .ok (r, s)) :
    (∀ call ∈ s.sf.log, call.kind ≠ .ftarget → call.kind ≠ .gtol → InBox c.lb c.ub call.arg) ∧
    (∀ cb ∈ s.cbStates, InBox c.lb c.ub cb.x) ∧
    InBox c.lb c.ub r.x :=
  C02.evals_in_box u o c
    ⟨hbox, hn, hxbar, fun x f hx p hp => fd_points_in_box sch hOf x c.lb c.ub hx p (hfd x f ▸ hp), hck⟩
    r s h

end Lbfgsb.C16
