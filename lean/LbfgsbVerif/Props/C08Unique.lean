/-
  C08 — "the first local minimiser" is well defined: the two clauses of `gcp_first_local_min` (the model value along the projected
  path decreases strictly up to `t*`, and does not decrease on a right neighbourhood of `t*`) determine `t*`. So the theorem does
  not merely say that the routine returns *a* point with these properties: there is exactly one such parameter, and the Cauchy
  point is the point of the path at that parameter.
-/
import LbfgsbVerif.Props.C08Min

namespace Lbfgsb.C08
open Lbfgsb Matrix
variable {K : Type} [Field K] [LinearOrder K] [IsStrictOrderedRing K]

theorem firstLocalMin_unique (φ : K → K) (t1 t2 : K) (h1 : FirstLocalMin φ t1) (h2 : FirstLocalMin φ t2) : t1 = t2 := by
  have key : ∀ a b : K, FirstLocalMin φ a → FirstLocalMin φ b → ¬ a < b := by
    intro a b ha hb hab
    obtain ⟨ha0, -, δ, hδ, hmin⟩ := ha
    obtain ⟨-, hdec, -⟩ := hb
    -- a point just right of `a`, still below `b`
    have hτ1 : a < min b (a + δ) := lt_min hab (lt_add_of_pos_right a hδ)
    have hle := hmin (min b (a + δ)) (le_of_lt hτ1) (min_le_right _ _)
    have hlt := hdec a (min b (a + δ)) ha0 hτ1 (min_le_left _ _)
    exact hlt.not_ge hle
  exact le_antisymm (not_lt.1 (key t2 t1 h2 h1)) (not_lt.1 (key t1 t2 h1 h2))

/-- **C08 (the Cauchy point is THE first local minimiser)** any parameter with the two properties gives the point the model returns -/
theorem gcp_is_the_first_local_min (i : CauchyIn K) (n k : Nat) (Mm : Matrix (Fin k) (Fin k) K)
    (hk : kOf i = k) (hc : MinCtx i n k Mm (f2orgOf i)) (t : K) (ht : FirstLocalMin (phi i n k Mm) t) :
    (cauchy i).1 = clip (vsub i.x (smul t i.g)) i.lb i.ub := by
  obtain ⟨tF, h, hp, -⟩ := cauchy_first_local_min i n k Mm hk hc
  rw [firstLocalMin_unique (phi i n k Mm) t tF ht h]
  exact hp

end Lbfgsb.C08
