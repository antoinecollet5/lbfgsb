/-
  C08 — the Cauchy point does not depend on where the origin of the variables is put.

  `cauchy_point_shift`: an input and the same input with `x`, `lb`, `ub` translated by one constant `c` (same gradient, same
  limited-memory model), both in the context of `gcp_first_local_min`, have Cauchy points related by `x_cp' = x_cp + c`: the
  projected path is translated and the model value along it depends on `path − x` only (`cauchy_transport`).
-/
import LbfgsbVerif.Proofs.Units

namespace Lbfgsb.C08
open Lbfgsb Matrix Lbfgsb.Units
variable {K : Type} [Field K] [LinearOrder K] [IsStrictOrderedRing K]

/-- the same problem with the origin of the variables moved by `c` -/
def shiftIn (c : K) (i : CauchyIn K) : CauchyIn K :=
  { i with x := i.x.map (· + c), lb := i.lb.map (· + c), ub := i.ub.map (· + c) }

theorem pathAt_shift (c : K) (i : CauchyIn K) (τ : K) : pathAt (shiftIn c i) τ = (pathAt i τ).map (· + c) := by
  unfold pathAt shiftIn
  simp only
  rw [vsub_shift_left, clip_shift]

theorem vec_sub_shift (n : Nat) (c : K) (p x : Vec K) (hp : p.length = n) (hx : x.length = n) :
    vec n (p.map (· + c)) - vec n (x.map (· + c)) = vec n p - vec n x := by
  rw [← vec_vsub n _ _ ((List.length_map _).trans hp) ((List.length_map _).trans hx), C09.vsub_shift_both, vec_vsub n p x hp hx]

theorem phi_shift (c : K) (i : CauchyIn K) (n k : Nat) (Mm : Matrix (Fin k) (Fin k) K)
    (hxl : i.x.length = n) (hgl : i.g.length = n) (τ : K) :
    phi (shiftIn c i) n k Mm τ = phi i n k Mm τ := by
  unfold phi
  have hpl : (pathAt i τ).length = n := by rw [pathAt_length i (by rw [hgl, hxl]), hxl]
  rw [pathAt_shift]
  show qmodel (vec n i.g) (bmat i.theta (wmat n k i.W) Mm) (vec n ((pathAt i τ).map (· + c)) - vec n (i.x.map (· + c))) = _
  rw [vec_sub_shift n c _ _ hpl hxl]

/-- **C08 (origin)** — `x`, `lb`, `ub` translated by `c`, both inputs in the context of `gcp_first_local_min`: the Cauchy point is
translated by `c` -/
theorem cauchy_point_shift (c : K) (i : CauchyIn K) (n k : Nat) (Mm : Matrix (Fin k) (Fin k) K)
    (hk : kOf i = k) (hc : MinCtx i n k Mm (f2orgOf i)) (hc' : MinCtx (shiftIn c i) n k Mm (f2orgOf (shiftIn c i))) :
    (cauchy (shiftIn c i)).1 = (cauchy i).1.map (· + c) := by
  refine cauchy_transport 1 1 one_pos one_pos (List.map (· + c)) i (shiftIn c i) n k k Mm Mm hk hc hk hc' ?_ ?_
  · intro t
    rw [one_mul]
    exact pathAt_shift c i t
  · intro t
    rw [one_mul, one_mul]
    exact phi_shift c i n k Mm hc.q.hx hc.q.hg t

/-- **C08 (origin, empty memory)** for every feasible input without pairs, every `θ > 0` and every translation (no floor: `epsFsec = 0`) -/
theorem cauchy_shift_nofactor (c : K) (i : CauchyIn K) (n : Nat) (hθ : 0 < i.theta)
    (hx : i.x.length = n) (hg : i.g.length = n) (hW : i.W.length = n)
    (hrow : ∀ r, r < n → (i.W.getD r []).length = kOf i)
    (huf : i.useFactor = false) (he : i.epsFsec = 0) (hbox : InBoxF i.lb i.ub i.x) :
    (cauchy (shiftIn c i)).1 = (cauchy i).1.map (· + c) := by
  have hx' : (shiftIn c i).x.length = n := by
    rw [← hx]
    exact List.length_map _
  exact cauchy_point_shift c i n (kOf i) 0 rfl
    (minCtx_nopairs_nofloor i n (kOf i) hx hg hW hrow huf hθ hbox he _)
    (minCtx_nopairs_nofloor (shiftIn c i) n (kOf i) hx' hg hW hrow huf hθ (inBoxF_map (strictMono_shift c) _ _ _ hbox) he _)

/-! ### Non-vacuity (ℚ): `x = 0`, `g = (−1, 2)`, box `[−1, 1]²`, `θ = 1`, moved by 7. -/

def sI : CauchyIn ℚ :=
  { x := [0, 0], g := [-1, 2], lb := [-1, -1], ub := [1, 1], theta := 1, W := [[0], [0]], Minv := [[0]], useFactor := false, epsFsec := 0 }

example : (cauchy (shiftIn 7 sI)).1 = (cauchy sI).1.map (· + 7) := by
  refine cauchy_shift_nofactor 7 sI 2 (by decide +kernel) rfl rfl rfl (by decide) rfl rfl ?_
  simp only [sI, InBoxF]
  decide +kernel

end Lbfgsb.C08
