/-
  C18 — the returned inverse-Hessian operator is built from genuine curvature pairs.

  (U) about the driver model (`minimize`, fresh run, no objective redefinition; level U +
  `a·1 = a`), for the result and for every state handed to the callback: the pairs are the
  consecutive differences, in storage (chronological) order, of a history of coherent (point,
  gradient) values and of nothing else, there are at most `maxcor` of them, and every consecutive
  pair passed the curvature test `eps·y·y < s·y` when it entered, nothing being inserted between
  them afterwards.
  (F) ordered field: the curvature test with `eps ≥ 0` gives `s·y > 0`; the inverse update
  `H⁺ = (I − ρ s yᵀ) H (I − ρ y sᵀ) + ρ s sᵀ`, `ρ = 1/(y·s)` — what `LbfgsInvHessProduct` applies pair by pair — keeps an SPD `H`
  SPD when `s·y > 0`; `(H eᵢ)ᵢ = Hᵢᵢ`, the identity behind the diagonal utility.
  Restarts (pairs rebuilt from a checkpoint by subtraction: C06 theorems + rounding, finding
  K2) are decided by the correspondence (bit-exact replay of `sk, yk` of every result and
  callback state) and the monitors. For runs with redefinitions the curvature and the bound of
  the pairs are proved (`C13.redefinition_pairs_curvature`, Props/C13Mem); that the pairs are
  differences of coherent (point, gradient) values is decided by the correspondence.
-/
import LbfgsbVerif.Proofs.C18
import LbfgsbVerif.Props.C05
import LbfgsbVerif.Props.C10

namespace Lbfgsb.C18

section U
variable {α ε δ : Type}
variable [LinearOrder α] [Add α] [Sub α] [Mul α] [Div α] [Neg α] [OfNat α 0] [OfNat α 1]
  [FloatLike α]

theorem final_inv18 (u : User α ε) (o : Oracles α δ) (c : Cfg α) (hU : c.hasUpdate = false)
    (hmul1 : ∀ a : α, a * 1 = a) (hck : c.checkpoint = none) (hit : C05.Iterated u c)
    (r : Result α) (s : St α) (h : minimize u o c = .ok (r, s)) :
    Inv18 u c s.sf.scale 0 0 s ∧ r = s.result := by
  have hckOk : CkOk u c := .of_none hck
  have hcnt : cnt0 c = (0, 0) := by simp [cnt0, hck]
  have start : ∀ i s0, initEval u c = .ok i → prepare u c i = .ok s0 → Inv18 u c s0.sf.scale 0 0 s0 := by
    intro i s0 hi h0
    have inv0 := prepare_inv5 hU hmul1 hckOk (initEval_sum hi) (initEval_init5 hi) h0
    rw [hcnt] at inv0
    obtain ⟨hX0, hG0⟩ := initEval_fresh u c i hck hi
    obtain ⟨hXs, hGs, hcbs⟩ := prepare_fresh_any u c i s0 hX0 hG0 h0
    refine ⟨inv0, ?_, hcbs ▸ fun _ h => absurd h List.not_mem_nil⟩
    rw [hXs, hGs]
    exact MemOk.single _ _ _ _ _ inv0.at_x.2
  -- the invariant is indexed by the scale of the state it speaks of, which no pass changes
  rcases minimize_inv (I := fun s => Inv18 u c s.sf.scale 0 0 s) start
    (fun s s' flow hi _ hb =>
      have h' := iterBody_inv18 u o c hU _ 0 0 s s' flow hi hb
      h'.i5.scale_eq ▸ h') h with
    ⟨i, hi, ht, -⟩ | ⟨s1, t, su, w, i1, rfl, rfl⟩
  · obtain ⟨i0, hi0, ht0⟩ := hit
    obtain rfl : i0 = i := Except.ok.inj (hi0.symm.trans hi)
    rw [ht0] at ht
    exact absurd ht Bool.false_ne_true
  · exact ⟨i1.congr t su w, rfl⟩

/-- what C18 says of one reported state -/
def PairsGenuine (u : User α ε) (c : Cfg α) (sc : α) (sk yk : List (Vec α)) : Prop :=
  ∃ X G : List (Vec α), sk = diffs X ∧ yk = diffs G ∧ X.length = G.length ∧
    X.length ≤ c.maxcor + 1 ∧
    (∀ p ∈ X.zip G, ∃ g0, gradSpec u.toSFUser c.lb c.ub c.mode p.1 = .ok g0 ∧ p.2 = vscale g0 sc) ∧
    CurvChain c.epsSY X G

theorem PairsGenuine.of_memOk {u : User α ε} {c : Cfg α} {sc : α} {X G : List (Vec α)}
    (h : MemOk c.maxcor c.epsSY (GradAt u c sc) X G) : PairsGenuine u c sc (diffs X) (diffs G) :=
  ⟨X, G, rfl, rfl, h.len, h.bound, h.good, h.chain⟩

/-- **C18 (1)** the pairs of the result, and of every callback state, are consecutive
differences of a stored history of coherent (point, user's gradient there × scale) values. -/
theorem pairs_are_diffs (u : User α ε) (o : Oracles α δ) (c : Cfg α) (hU : c.hasUpdate = false)
    (hmul1 : ∀ a : α, a * 1 = a) (hck : c.checkpoint = none) (hit : C05.Iterated u c)
    (r : Result α) (s : St α) (h : minimize u o c = .ok (r, s)) :
    PairsGenuine u c s.sf.scale r.sk r.yk ∧
    ∀ cb ∈ s.cbStates, PairsGenuine u c s.sf.scale cb.sk cb.yk := by
  obtain ⟨inv, hr⟩ := final_inv18 u o c hU hmul1 hck hit r s h
  subst hr
  refine ⟨PairsGenuine.of_memOk inv.mem, ?_⟩
  intro cb hcb
  obtain ⟨X, G, hm, h1, h2⟩ := inv.cbs cb hcb
  rw [h1, h2]
  exact PairsGenuine.of_memOk hm

/-- **C18 (2)** at most `maxcor` pairs, in the result and in every callback state. -/
theorem pairs_le_maxcor (u : User α ε) (o : Oracles α δ) (c : Cfg α) (hU : c.hasUpdate = false)
    (hmul1 : ∀ a : α, a * 1 = a) (hck : c.checkpoint = none) (hit : C05.Iterated u c)
    (r : Result α) (s : St α) (h : minimize u o c = .ok (r, s)) :
    (r.sk.length ≤ c.maxcor ∧ r.yk.length ≤ c.maxcor) ∧
    ∀ cb ∈ s.cbStates, cb.sk.length ≤ c.maxcor ∧ cb.yk.length ≤ c.maxcor := by
  obtain ⟨h1, h2⟩ := pairs_are_diffs u o c hU hmul1 hck hit r s h
  have key : ∀ sk yk, PairsGenuine u c s.sf.scale sk yk → sk.length ≤ c.maxcor ∧ yk.length ≤ c.maxcor := by
    rintro sk yk ⟨X, G, e1, e2, hl, hb, -, -⟩
    rw [e1, e2, diffs_length, diffs_length]
    omega
  exact ⟨key _ _ h1, fun cb hcb => key _ _ (h2 cb hcb)⟩

/-- **C18 (3)** every consecutive pair of the result's history passed the curvature test. -/
theorem pairs_curvature (u : User α ε) (o : Oracles α δ) (c : Cfg α) (hU : c.hasUpdate = false)
    (hmul1 : ∀ a : α, a * 1 = a) (hck : c.checkpoint = none) (hit : C05.Iterated u c)
    (r : Result α) (s : St α) (h : minimize u o c = .ok (r, s)) :
    r.sk = diffs s.X ∧ r.yk = diffs s.G ∧ CurvChain c.epsSY s.X s.G := by
  obtain ⟨inv, hr⟩ := final_inv18 u o c hU hmul1 hck hit r s h
  subst hr
  exact ⟨rfl, rfl, inv.mem.chain⟩

end U

section
open Matrix
variable {n : Type} [Fintype n] [DecidableEq n] {K : Type} [Field K]

theorem one_sub_rankOne_mulVec (c : K) (a b x : n → K) :
    (1 - c • vecMulVec a b) *ᵥ x = x - (c * (b ⬝ᵥ x)) • a := by
  rw [sub_mulVec, one_mulVec, smul_mulVec, vecMulVec_mulVec, op_smul_eq_smul, smul_smul]

/-- one inverse update applied to a vector, `ρ` a variable: the two steps of the two-loop recursion for one pair -/
theorem rankOne_sandwich_mulVec (ρ : K) (H : Matrix n n K) (s y x : n → K) :
    ((1 - ρ • vecMulVec s y) * H * (1 - ρ • vecMulVec y s) + ρ • vecMulVec s s) *ᵥ x =
      H *ᵥ (x - (ρ * (s ⬝ᵥ x)) • y) + (ρ * (s ⬝ᵥ x) - ρ * (y ⬝ᵥ (H *ᵥ (x - (ρ * (s ⬝ᵥ x)) • y)))) • s := by
  rw [add_mulVec, ← mulVec_mulVec, ← mulVec_mulVec, one_sub_rankOne_mulVec, one_sub_rankOne_mulVec, smul_mulVec,
    vecMulVec_mulVec, op_smul_eq_smul, smul_smul, sub_smul]
  abel

/-- the inverse BFGS update applied by `LbfgsInvHessProduct` for one pair -/
noncomputable def invBfgs (H : Matrix n n K) (s y : n → K) : Matrix n n K :=
  let ρ := 1 / (y ⬝ᵥ s)
  (1 - ρ • vecMulVec s y) * H * (1 - ρ • vecMulVec y s) + ρ • vecMulVec s s

theorem invBfgs_quad (H : Matrix n n K) (s y x : n → K) :
    x ⬝ᵥ (invBfgs H s y *ᵥ x) =
      (x - (1 / (y ⬝ᵥ s) * (s ⬝ᵥ x)) • y) ⬝ᵥ (H *ᵥ (x - (1 / (y ⬝ᵥ s) * (s ⬝ᵥ x)) • y))
        + (s ⬝ᵥ x) ^ 2 / (y ⬝ᵥ s) := by
  rw [invBfgs, rankOne_sandwich_mulVec]
  -- with `z = x − a y`, `a = ρ sᵀx`, both sides are `xᵀHz − a yᵀHz + ρ (sᵀx)²`; `H` need not be symmetric
  simp only [dotProduct_add, dotProduct_smul, sub_dotProduct, smul_dotProduct, smul_eq_mul, dotProduct_comm x s]
  ring

theorem invBfgs_symm (H : Matrix n n K) (hH : Hᵀ = H) (s y : n → K) :
    (invBfgs H s y)ᵀ = invBfgs H s y := by
  simp only [invBfgs, transpose_add, transpose_mul, transpose_sub, transpose_one, transpose_smul,
    transpose_vecMulVec, hH, Matrix.mul_assoc]

end

section F
open Matrix
variable {n : Type} [Fintype n] [DecidableEq n]
variable {K : Type} [Field K] [LinearOrder K] [IsStrictOrderedRing K]

/-- **C18 (F1)** the curvature test with `eps ≥ 0` gives `s·y > 0`. -/
theorem curv_pos (eps : K) (he : 0 ≤ eps) (s y : n → K) (h : eps * (y ⬝ᵥ y) < s ⬝ᵥ y) :
    0 < s ⬝ᵥ y :=
  (mul_nonneg he (dot_self_nonneg y)).trans_lt h

/-- **C18 (F2)** one inverse update keeps `H` symmetric positive definite when `s·y > 0`. -/
theorem inv_bfgs_posdef (H : Matrix n n K) (hH : C10.SPD H) (s y : n → K) (hsy : 0 < s ⬝ᵥ y) :
    C10.SPD (invBfgs H s y) := by
  refine ⟨invBfgs_symm H hH.1 s y, fun x hx => ?_⟩
  rw [invBfgs_quad]
  exact C10.pos_of_split hH.2 y s hsy.ne' (dotProduct_comm s y ▸ hsy) x hx _

/-- the dense operator of a list of pairs, oldest first -/
noncomputable def invChain (H : Matrix n n K) : List ((n → K) × (n → K)) → Matrix n n K
  | [] => H
  | p :: ps => invChain (invBfgs H p.1 p.2) ps

/-- **C18 (F3)** … for any list of pairs with `s·y > 0` on an SPD initial matrix (SciPy uses the identity). -/
theorem inv_bfgs_chain_posdef (H : Matrix n n K) (hH : C10.SPD H) (ps : List ((n → K) × (n → K)))
    (hp : ∀ p ∈ ps, 0 < p.1 ⬝ᵥ p.2) : C10.SPD (invChain H ps) := by
  induction ps generalizing H with
  | nil => exact hH
  | cons p ps ih =>
    simp only [invChain]
    exact ih _ (inv_bfgs_posdef H hH p.1 p.2 (hp p (List.mem_cons_self ..)))
      (fun q hq => hp q (List.mem_cons_of_mem _ hq))

/-- **C18 (F4)** `extract_hess_inv_diag`: `(H e_i)_i = H_ii`, for every square matrix. -/
theorem diag_by_unit_vectors (H : Matrix n n K) (i : n) : (H *ᵥ Pi.single i 1) i = H i i := by
  rw [mulVec_single_one]
  rfl

end F

/-- a chain over ℤ: X = 0, 1, 3 and G = 0, 2, 5 in dimension 1 with eps = 0: s·y = 2, 6 > 0 -/
theorem chainZ : CurvChain (0 : Int) [[0], [1], [3]] [[0], [2], [5]] := by
  show curvOk _ _ _ _ _ = true ∧ curvOk _ _ _ _ _ = true ∧ True
  decide +kernel

example : CurvChain (0 : Int) [[0], [1], [3]] [[0], [2], [5]] := chainZ

example : MemOk 2 (0 : Int) (fun _ _ => True) [[0], [1], [3]] [[0], [2], [5]] :=
  ⟨rfl, List.cons_ne_nil _ _, by decide, fun _ _ => trivial, chainZ⟩

/-- the concrete run of the C05 example meets the hypotheses, and ends with two pairs:
iterates (3,2) → (2,1) → (1,0), gradients 3·2x -/
example : C05.Iterated C05.uZ C05.cZ ∧ C05.cZ.checkpoint = none ∧ C05.cZ.hasUpdate = false :=
  ⟨C05.iterated_uZ, rfl, rfl⟩

example : ∃ r s, minimize C05.uZ C05.oZ C05.cZ = .ok (r, s) ∧ r.sk = [[-1, -1], [-1, -1]] ∧
    r.yk = [[-6, -6], [-6, -6]] :=
  exists_ok_of_decide (by decide +kernel)

end Lbfgsb.C18
