/-
  C10 — the limited-memory matrix is the BFGS matrix of the stored pairs and stays SPD.
  (U) bookkeeping of the memory (`updateMats` = `update_X_and_G` + the snapshot taken by `update_lbfgs_matrices`), any arithmetic.
  (F) the BFGS update over an ordered field (Mathlib matrices): symmetry, secant equation, positive definiteness, and the secant
  equation of the compact representation `θ I − W N⁻¹ Wᵀ`, `W = [Y θS]`, `N = [[−D, Lᵀ], [L, θ SᵀS]]`, whenever `N` is invertible.
  That the compact representation equals the dense recursion is Props/C10Compact.lean and, for the lists the kernel model builds,
  Props/C10Kernel.lean; the correspondence check decides that the triangular factors of the code represent `N⁻¹` up to rounding.
-/
import LbfgsbVerif.Proofs.C06
import LbfgsbVerif.Proofs.CompactSecant
import LbfgsbVerif.Proofs.VecBridge
import Mathlib.Tactic.FieldSimp
import Mathlib.Algebra.Order.Field.Rat

namespace Lbfgsb.C10
open Lbfgsb

section U
variable {α : Type} [Add α] [Sub α] [Mul α] [LT α] [DecidableLT α] [OfNat α 0]

/-- **C10** a rejected candidate leaves the memory and the matrices untouched. -/
theorem reject_is_noop (xk gk : Vec α) (X G : List (Vec α)) (maxcor : Nat) (mats : Mats α) (eps : α)
    (h : curvOk xk gk (lastD X) (lastD G) eps = false) :
    updateMats xk gk X G maxcor mats eps = (X, G, mats, false) :=
  updateMats_reject xk gk X G maxcor mats eps h

/-- **C10** an accepted candidate is appended; when that makes more than `maxcor + 1`
points the oldest one is discarded; the matrices are rebuilt from exactly the new deques. -/
theorem accept_appends_and_drops_oldest (xk gk : Vec α) (X G : List (Vec α)) (maxcor : Nat)
    (mats : Mats α) (eps : α) (h : curvOk xk gk (lastD X) (lastD G) eps = true) :
    let r := updateMats xk gk X G maxcor mats eps
    r.1 = (if (X ++ [xk]).length > maxcor + 1 then (X ++ [xk]).drop 1 else X ++ [xk]) ∧
    r.2.1 = (if (X ++ [xk]).length > maxcor + 1 then (G ++ [gk]).drop 1 else G ++ [gk]) ∧
    r.2.2.1 = some (r.1, r.2.1) ∧ r.2.2.2 = true := by
  intro r
  have hr : r = _ := updateMats_accept xk gk X G maxcor mats eps h
  -- `updateMats_accept` drops `k ∈ {0, 1}` points; the two conditions on the length are the same
  have hc : (X ++ [xk]).length > maxcor + 1 ↔ maxcor < X.length := by
    rw [List.length_append, List.length_singleton]
    exact Nat.add_lt_add_iff_right
  rw [hr]
  by_cases hk : maxcor < X.length
  · rw [if_pos (hc.2 hk), if_pos (hc.2 hk)]
    simp only [if_pos hk, and_self]
  · rw [if_neg (mt hc.1 hk), if_neg (mt hc.1 hk)]
    simp only [if_neg hk, List.drop_zero, and_self]

/-- **C10** the memory never holds more than `maxcor + 1` points (`maxcor` pairs). -/
theorem mem_le_maxcor (xk gk : Vec α) (X G : List (Vec α)) (maxcor : Nat) (mats : Mats α) (eps : α)
    (hX : X.length ≤ maxcor + 1) :
    (updateMats xk gk X G maxcor mats eps).1.length ≤ maxcor + 1 := by
  cases h : curvOk xk gk (lastD X) (lastD G) eps
  · rw [updateMats_reject xk gk X G maxcor mats eps h]
    exact hX
  · rw [updateMats_accept xk gk X G maxcor mats eps h, List.length_drop, List.length_append, List.length_singleton]
    split
    · exact hX
    · exact Nat.succ_le_succ (Nat.le_of_not_lt ‹¬maxcor < X.length›)

theorem mem_le_maxcor_seq (maxcor : Nat) (eps : α) (cands : List (Vec α × Vec α)) (X G : List (Vec α))
    (mats : Mats α) (hX : X.length ≤ maxcor + 1) :
    (cands.foldl (fun (st : List (Vec α) × List (Vec α) × Mats α) c =>
        let r := updateMats c.1 c.2 st.1 st.2.1 maxcor st.2.2 eps
        (r.1, r.2.1, r.2.2.1)) (X, G, mats)).1.length ≤ maxcor + 1 := by
  induction cands generalizing X G mats with
  | nil => exact hX
  | cons c cs ih =>
    simp only [List.foldl_cons]
    exact ih _ _ _ (mem_le_maxcor c.1 c.2 X G maxcor mats eps hX)

/-- **C10** the newest stored pair passed the curvature test when it entered. -/
theorem newest_pair_curv (xk gk : Vec α) (X G : List (Vec α)) (maxcor : Nat) (mats : Mats α) (eps : α)
    (h : (updateMats xk gk X G maxcor mats eps).2.2.2 = true) :
    eps * dot (vsub gk (lastD G)) (vsub gk (lastD G)) <
      dot (vsub xk (lastD X)) (vsub gk (lastD G)) := by
  cases hc : curvOk xk gk (lastD X) (lastD G) eps
  · rw [updateMats_reject xk gk X G maxcor mats eps hc] at h
    exact absurd h Bool.false_ne_true
  · exact of_decide_eq_true hc

end U

section F
open Matrix
variable {n : Type} [Fintype n] [DecidableEq n]
variable {K : Type} [Field K]

noncomputable def bfgs (B : Matrix n n K) (s y : n → K) : Matrix n n K :=
  B - (1 / (s ⬝ᵥ (B *ᵥ s))) • vecMulVec (B *ᵥ s) (B *ᵥ s) + (1 / (s ⬝ᵥ y)) • vecMulVec y y

theorem bfgs_mulVec (B : Matrix n n K) (s y x : n → K) :
    bfgs B s y *ᵥ x =
      B *ᵥ x - (((B *ᵥ s) ⬝ᵥ x) / (s ⬝ᵥ (B *ᵥ s))) • (B *ᵥ s) + ((y ⬝ᵥ x) / (s ⬝ᵥ y)) • y := by
  simp only [bfgs, add_mulVec, sub_mulVec, smul_mulVec, vecMulVec_mulVec, op_smul_eq_smul, smul_smul, one_div,
    inv_mul_eq_div]

theorem bfgs_quad (B : Matrix n n K) (hB : Bᵀ = B) (s y x : n → K) (hs : s ⬝ᵥ (B *ᵥ s) ≠ 0) :
    x ⬝ᵥ (bfgs B s y *ᵥ x) =
      (x - ((s ⬝ᵥ (B *ᵥ x)) / (s ⬝ᵥ (B *ᵥ s))) • s) ⬝ᵥ (B *ᵥ (x - ((s ⬝ᵥ (B *ᵥ x)) / (s ⬝ᵥ (B *ᵥ s))) • s)) +
        (y ⬝ᵥ x) ^ 2 / (s ⬝ᵥ y) := by
  rw [bfgs_mulVec]
  simp only [mulVec_sub, mulVec_smul, dotProduct_add, dotProduct_sub, sub_dotProduct, dotProduct_smul, smul_dotProduct, smul_eq_mul,
    quad_symm B hB x s, dotProduct_comm (B *ᵥ s) x, dotProduct_comm x y]
  generalize s ⬝ᵥ (B *ᵥ x) = b at *
  generalize s ⬝ᵥ (B *ᵥ s) = c at *
  field_simp
  ring

variable [LinearOrder K] [IsStrictOrderedRing K]

/-- symmetric positive definite, stated without analysis -/
def SPD (B : Matrix n n K) : Prop := Bᵀ = B ∧ ∀ x : n → K, x ≠ 0 → 0 < x ⬝ᵥ (B *ᵥ x)

theorem pos_of_split {A : Matrix n n K} (hA : ∀ z : n → K, z ≠ 0 → 0 < z ⬝ᵥ (A *ᵥ z)) (u w : n → K) (hwu : w ⬝ᵥ u ≠ 0)
    {τ : K} (hτ : 0 < τ) (x : n → K) (hx : x ≠ 0) (c : K) :
    0 < (x - c • u) ⬝ᵥ (A *ᵥ (x - c • u)) + (w ⬝ᵥ x) ^ 2 / τ := by
  by_cases hz : x - c • u = 0
  · have hxu : x = c • u := sub_eq_zero.1 hz
    have hc : c ≠ 0 := fun h0 => hx (by rw [hxu, h0, zero_smul])
    rw [hz, mulVec_zero, dotProduct_zero, zero_add, hxu, dotProduct_smul, smul_eq_mul]
    exact div_pos (sq_pos_of_ne_zero (mul_ne_zero hc hwu)) hτ
  · exact add_pos_of_pos_of_nonneg (hA _ hz) (div_nonneg (sq_nonneg _) hτ.le)

/-- **C10** symmetry is preserved. -/
theorem bfgs_symm (B : Matrix n n K) (hB : Bᵀ = B) (s y : n → K) : (bfgs B s y)ᵀ = bfgs B s y := by
  rw [bfgs, transpose_add, transpose_sub, transpose_smul, transpose_smul, transpose_vecMulVec, transpose_vecMulVec, hB]

/-- **C10** the secant equation `B⁺ s = y`. -/
theorem bfgs_secant (B : Matrix n n K) (s y : n → K) (h1 : s ⬝ᵥ (B *ᵥ s) ≠ 0) (h2 : s ⬝ᵥ y ≠ 0) :
    bfgs B s y *ᵥ s = y := by
  rw [bfgs_mulVec, dotProduct_comm (B *ᵥ s) s, dotProduct_comm y s, div_self h1, div_self h2, one_smul, one_smul,
    sub_self, zero_add]

theorem ne_zero_of_curv {s y : n → K} (h : 0 < s ⬝ᵥ y) : s ≠ 0 := by
  rintro rfl
  rw [zero_dotProduct] at h
  exact lt_irrefl _ h

/-- **C10** positive definiteness is preserved when `s·y > 0`. -/
theorem bfgs_posdef (B : Matrix n n K) (hB : SPD B) (s y : n → K) (hs : s ≠ 0) (hsy : 0 < s ⬝ᵥ y) :
    SPD (bfgs B s y) := by
  refine ⟨bfgs_symm B hB.1 s y, fun x hx => ?_⟩
  rw [bfgs_quad B hB.1 s y x (hB.2 s hs).ne']
  exact pos_of_split hB.2 s y ((dotProduct_comm y s).trans_ne hsy.ne') hsy x hx _

/-- the dense matrix obtained by applying a list of pairs, oldest first, to `B` -/
noncomputable def bfgsChain (B : Matrix n n K) : List ((n → K) × (n → K)) → Matrix n n K
  | [] => B
  | p :: ps => bfgsChain (bfgs B p.1 p.2) ps

/-- **C10** any list of pairs with `s ≠ 0`, `s·y > 0` (what the curvature test gives when `eps ≥ 0`) applied to an SPD
matrix (`theta·I`, `theta > 0`) yields an SPD matrix. -/
theorem bfgs_chain_posdef (B : Matrix n n K) (hB : SPD B) (ps : List ((n → K) × (n → K)))
    (hp : ∀ p ∈ ps, p.1 ≠ 0 ∧ 0 < p.1 ⬝ᵥ p.2) : SPD (bfgsChain B ps) := by
  induction ps generalizing B with
  | nil => exact hB
  | cons p ps ih =>
    simp only [bfgsChain]
    have hp0 := hp p (List.mem_cons_self ..)
    exact ih _ (bfgs_posdef B hB p.1 p.2 hp0.1 hp0.2) (fun q hq => hp q (List.mem_cons_of_mem _ hq))

theorem scaled_identity_spd (theta : K) (ht : 0 < theta) : SPD (theta • (1 : Matrix n n K)) := by
  refine ⟨by rw [transpose_smul, transpose_one], fun x hx => ?_⟩
  simp only [smul_mulVec, one_mulVec, dotProduct_smul, smul_eq_mul]
  exact mul_pos ht (dot_self_pos _ hx)

/-- **C10** the compact representation satisfies the secant equation of the newest pair. -/
theorem compact_secant {ι : Type} [Fintype ι] [DecidableEq ι] [LinearOrder ι]
    (S Y : Matrix n ι K) (θ : K) (Ninv : Matrix (ι ⊕ ι) (ι ⊕ ι) K)
    (hN : Ninv * Compact.N S Y θ = 1) (j0 : ι) (hmax : ∀ i, i ≤ j0) :
    (θ • (1 : Matrix n n K) - Compact.W S Y θ * Ninv * (Compact.W S Y θ)ᵀ) *ᵥ (fun k => S k j0) = fun k => Y k j0 :=
  Compact.compact_secant S Y θ Ninv hN j0 hmax

end F

/-! ### Non-vacuity of `compact_secant`: one pair `s = 1, y = 2` in dimension one, `θ = 2`: `N = diag(−2, 2)` is
invertible -/
section nonvacuous_compact
open Matrix
def S1 : Matrix Unit Unit ℚ := Matrix.of fun _ _ => 1
def Y1 : Matrix Unit Unit ℚ := Matrix.of fun _ _ => 2
theorem A1 : Compact.A S1 Y1 = Matrix.of fun _ _ => (2 : ℚ) := by
  ext i j
  simp [Compact.A, Matrix.mul_apply, S1, Y1]
theorem SS1 : S1ᵀ * S1 = Matrix.of fun _ _ => (1 : ℚ) := by
  ext i j
  simp [Matrix.mul_apply, S1]
example : (Matrix.fromBlocks (Matrix.of fun _ _ => (-1/2 : ℚ)) 0 0 (Matrix.of fun _ _ => (1/2 : ℚ)) :
    Matrix (Unit ⊕ Unit) (Unit ⊕ Unit) ℚ) * Compact.N S1 Y1 2 = 1 := by
  decide +kernel
end nonvacuous_compact

end Lbfgsb.C10
