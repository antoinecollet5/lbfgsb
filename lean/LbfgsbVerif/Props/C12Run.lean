/-
  C12 — run level: at every loop-head state a fresh run of the COMPLETE model reaches, if no bound interferes there
  (the Cauchy point is strictly inside the box and the quasi-Newton point is feasible) and the Fortran floor is inactive,
  the point the iteration aims its line search at is the L-BFGS quasi-Newton point of the stored history:
  `x − twoLoop(θ⁻¹ I, pairs)(g)` with a non-empty memory, `x − g` with an empty one (first iteration, or after a reset).

  Composition of C12 `complete_iteration_is_lbfgs` / `newton_point_is_two_loop_nopairs` (Props/C12Newton) with the run-level
  invariant `DInvS` of C01 (Props/C01Run: `fresh_dinv`, `reach_dinv`).
-/
import LbfgsbVerif.Props.C12Newton
import LbfgsbVerif.Props.C01Run

namespace Lbfgsb.C12
open Matrix CompactKernel Lbfgsb.FullNewton Lbfgsb.C01 C06
variable {K ε δ : Type} [Field K]
attribute [local instance] fieldFloatLike

/-- the L-BFGS quasi-Newton point of a loop state: two-loop recursion on the stored pairs from `θ⁻¹ I`, or steepest descent -/
noncomputable def quasiNewtonPoint (s : St K) : Fin s.x.length → K :=
  vec s.x.length s.x -
    (if s.X.length > 1 then
      C18.twoLoop ((thetaOf s.X s.G)⁻¹ • (1 : Matrix (Fin s.x.length) (Fin s.x.length) K))
        (pairsOf s.x.length (diffs s.X) (diffs s.G)) (vec s.x.length s.g)
    else vec s.x.length s.g)

theorem quasiNewtonPoint_pairs {s : St K} (hX : s.X.length > 1) :
    quasiNewtonPoint s = vec s.x.length s.x -
      C18.twoLoop ((thetaOf s.X s.G)⁻¹ • (1 : Matrix (Fin s.x.length) (Fin s.x.length) K))
        (pairsOf s.x.length (diffs s.X) (diffs s.G)) (vec s.x.length s.g) := by
  unfold quasiNewtonPoint
  rw [if_pos hX]

theorem quasiNewtonPoint_nopairs {s : St K} (hX : ¬ s.X.length > 1) :
    quasiNewtonPoint s = vec s.x.length s.x - vec s.x.length s.g := by
  unfold quasiNewtonPoint
  rw [if_neg hX]

variable [LinearOrder K] [IsStrictOrderedRing K]

/-- no bound interferes with the iteration at `s`: the Cauchy point the model computes is strictly inside the
box and the quasi-Newton point is feasible -/
def NoBound (c : Cfg K) (e : K) (s : St K) : Prop :=
  StrictIn c.lb c.ub (cauchy (kernelInput s.x s.g c.lb c.ub s.mats e)).1 ∧
  ∀ r : Fin s.x.length, vec s.x.length c.lb r ≤ quasiNewtonPoint s r ∧ quasiNewtonPoint s r ≤ vec s.x.length c.ub r

theorem quasiNewtonPoint_inBox (c : Cfg K) (s : St K) (hX : ¬ s.X.length > 1) (hgl : s.g.length = s.x.length)
    (hb : InBoxF c.lb c.ub (vsub s.x s.g)) (r : Fin s.x.length) :
    vec s.x.length c.lb r ≤ quasiNewtonPoint s r ∧ quasiNewtonPoint s r ≤ vec s.x.length c.ub r := by
  rw [quasiNewtonPoint_nopairs hX, ← vec_vsub s.x.length s.x s.g rfl hgl]
  exact inBoxF_getD hb r (by rw [vsub_length, hgl, min_self]; exact r.2)

/-- **C12 (state level)** at a loop-head state with the run-level invariant, an inactive floor and no bound
interfering, the point the composed kernels return is the quasi-Newton point of the stored history -/
theorem state_is_lbfgs [Dcsrch.DcOps K] (u : User K ε) (c : Cfg K) (e : K) (s : St K) (hi : DInvS u c s)
    (hbx : BoxOk c.lb c.ub) (hn : 0 < c.lb.length) (he : 0 ≤ c.epsSY)
    (hfl : FloorOK c e s) (hnb : NoBound c e s) :
    vec s.x.length ((concreteOracles c.lb c.ub e).xbar s.x s.g s.mats) = quasiNewtonPoint s := by
  obtain ⟨hint, hN⟩ := hnb
  have hxn : 0 < s.x.length := hi.xpos hn
  show vec s.x.length (xbarModel c.lb c.ub e s.x s.g s.mats) = quasiNewtonPoint s
  rw [hi.mats] at hint ⊢
  by_cases hX : s.X.length > 1
  · rw [if_pos hX] at hint ⊢
    rw [quasiNewtonPoint_pairs hX] at hN ⊢
    obtain ⟨hS, hY, hcurv, hθ⟩ := hyps_of_chain s.x.length c.epsSY he s.X s.G hX hi.hlen hi.lenX hi.lenG hi.chain
    -- the kernel theorem reads `g` through `fitTo`, the identity on a gradient of the length of `x`
    have key := complete_iteration_is_lbfgs c.lb c.ub e s.x s.g s.X s.G hX hi.hlen hxn hS hY hcurv hθ (hi.inBoxF hbx)
      (hfl.pairs hi hX) hint
    rw [fitTo_eq s.x s.g hi.glen] at key
    exact key hN
  · rw [if_neg hX] at hint ⊢
    have ctx := nopairs_ctx c.lb c.ub e s.x s.g hxn hi.glen (hi.inBoxF hbx) (hfl.nopairs hi hX)
    unfold xbarModel
    rw [kernelInput_none c.lb c.ub e s.x s.g hi.glen] at ctx hint ⊢
    rw [quasiNewtonPoint_nopairs hX] at hN ⊢
    -- `B = 1·I`: the only solution of `B w = −g` is `−g`
    exact full_step_point _ s.x.length 1 0 ctx.spec hxn ctx.hxc hint _
      (fun w hw => by
        rw [bmat_zero_mulVec] at hw
        exact (one_smul K w).symm.trans hw) hN

/-- **C12 (every iteration of a fresh run of the complete model is an L-BFGS iteration while no bound interferes)** — fresh run, no
scaler, no update function, no target, constant `gtol`; well-formed box of the size of `x0`; gradients of the length of their
argument; `maxcor ≥ 1`, `eps ≥ 0`. At every loop-head state the run reaches at which no bound interferes and the floor is inactive,
the point `x̄` the composed kernel models return is the quasi-Newton point of the stored history. -/
theorem run_iteration_is_lbfgs [Dcsrch.DcOps K] (u : User K ε) (c : Cfg K) (e a : K)
    (hck : c.checkpoint = none) (hS : c.hasScaler = false) (hU : c.hasUpdate = false) (hT : c.ftarget = none)
    (hg : c.gtol = .const a) (hm : 1 ≤ c.maxcor) (hbox : BoxOk c.lb c.ub) (hx0 : c.x0.length = c.lb.length)
    (hn : 0 < c.lb.length) (he : 0 ≤ c.epsSY) (hgl : GradLen u c)
    (i0 : Init K) (s0 s : St K) (hi0 : initEval u c = .ok i0) (hp0 : prepare u c i0 = .ok s0)
    (hr : Reach u (concreteOracles c.lb c.ub e) c s0 s)
    (hfl : FloorOK c e s) (hnb : NoBound c e s) :
    vec s.x.length ((concreteOracles c.lb c.ub e).xbar s.x s.g s.mats) = quasiNewtonPoint s :=
  state_is_lbfgs u c e s
    (fresh_reach_dinv u c e a hck hS hU hT hg hm hbox hx0 hgl i0 s0 s hi0 hp0 hr)
    hbox hn he hfl hnb

/-- the unconstrained Cauchy step `gᵀg / gᵀBg` of a loop state, `B` the BFGS matrix of its stored pairs -/
noncomputable def cauchyStepLen (s : St K) : K :=
  (vec s.x.length s.g ⬝ᵥ vec s.x.length s.g) /
    (vec s.x.length s.g ⬝ᵥ (C10.bfgsChain ((thetaOf s.X s.G) • (1 : Matrix (Fin s.x.length) (Fin s.x.length) K))
      (pairsOf s.x.length (diffs s.X) (diffs s.G)) *ᵥ vec s.x.length s.g))

/-- no bound interferes, as a condition on the state's data: the segment from `x` to a little beyond the unconstrained Cauchy step lies in
the box, strictly at the step itself, and the quasi-Newton point is feasible -/
def NoBoundData (c : Cfg K) (s : St K) : Prop :=
  (∃ T, cauchyStepLen s < T ∧ InBoxF c.lb c.ub (vsub s.x (smul T s.g))) ∧
  StrictIn c.lb c.ub (vsub s.x (smul (cauchyStepLen s) s.g)) ∧
  ∀ r : Fin s.x.length, vec s.x.length c.lb r ≤ quasiNewtonPoint s r ∧ quasiNewtonPoint s r ≤ vec s.x.length c.ub r

/-- **C12 (state level, data only)** for a state with at least one stored pair and a non-zero gradient -/
theorem state_is_lbfgs_data [Dcsrch.DcOps K] (u : User K ε) (c : Cfg K) (e : K) (s : St K) (hi : DInvS u c s)
    (hbx : BoxOk c.lb c.ub) (hn : 0 < c.lb.length) (he : 0 ≤ c.epsSY) (hX : s.X.length > 1) (hg : vec s.x.length s.g ≠ 0)
    (hfl : FloorOK c e s) (hnb : NoBoundData c s) :
    vec s.x.length ((concreteOracles c.lb c.ub e).xbar s.x s.g s.mats) = quasiNewtonPoint s := by
  obtain ⟨⟨T, hT, hTbox⟩, hstrict, hN⟩ := hnb
  obtain ⟨hS, hY, hcurv, hθ⟩ := hyps_of_chain s.x.length c.epsSY he s.X s.G hX hi.hlen hi.lenX hi.lenG hi.chain
  have key := complete_iteration_is_lbfgs_data c.lb c.ub e s.x s.g s.X s.G hX hi.hlen (hi.xpos hn)
    hS hY hcurv hθ (hi.inBoxF hbx) (hfl.pairs hi hX)
  rw [fitTo_eq s.x s.g hi.glen] at key
  show vec s.x.length (xbarModel c.lb c.ub e s.x s.g s.mats) = quasiNewtonPoint s
  rw [quasiNewtonPoint_pairs hX] at hN ⊢
  rw [hi.mats, if_pos hX]
  exact key hg T hT hTbox hstrict hN

/-- no bound interferes at a state with an EMPTY memory (first iteration, after a reset), on the data: `B = I`, the unconstrained Cauchy
step is 1 and the quasi-Newton point is the Cauchy point `x − g` -/
def NoBoundData0 (c : Cfg K) (s : St K) : Prop :=
  (∃ T, 1 < T ∧ InBoxF c.lb c.ub (vsub s.x (smul T s.g))) ∧ StrictIn c.lb c.ub (vsub s.x (smul 1 s.g))

/-- **C12 (state level, data only, empty memory)**: the iteration aims at `x − g` -/
theorem state_is_lbfgs_data0 [Dcsrch.DcOps K] (u : User K ε) (c : Cfg K) (e : K) (s : St K) (hi : DInvS u c s)
    (hbx : BoxOk c.lb c.ub) (hn : 0 < c.lb.length) (he : 0 ≤ c.epsSY) (hX : ¬ s.X.length > 1) (hg : vec s.x.length s.g ≠ 0)
    (hfl : FloorOK c e s) (hnb : NoBoundData0 c s) :
    vec s.x.length ((concreteOracles c.lb c.ub e).xbar s.x s.g s.mats) = quasiNewtonPoint s := by
  obtain ⟨⟨T, hT, hTbox⟩, hstrict⟩ := hnb
  obtain ⟨hk, hmin, -, -⟩ := nopairs_ctx c.lb c.ub e s.x s.g (hi.xpos hn) hi.glen (hi.inBoxF hbx) (hfl.nopairs hi hX)
  have hki := kernelInput_none c.lb c.ub e s.x s.g hi.glen
  rw [hki] at hk hmin
  -- `B = I`: the unconstrained Cauchy step `gᵀg / gᵀBg` is 1
  have hone : ∀ W : Matrix (Fin s.x.length) (Fin 1) K, (vec s.x.length s.g ⬝ᵥ vec s.x.length s.g) /
      (vec s.x.length s.g ⬝ᵥ (bmat 1 W (0 : Matrix (Fin 1) (Fin 1) K) *ᵥ vec s.x.length s.g)) = 1 := by
    intro W
    rw [bmat_zero_quad, one_mul]
    exact div_self (dot_self_pos _ hg).ne'
  have hstep := C08.cauchy_unconstrained_step _ s.x.length 1 0 hk hmin hg T (by rw [hone]; exact hT) hTbox
  rw [hone] at hstep
  -- the general state theorem, with its hypothesis on the Cauchy point discharged
  refine state_is_lbfgs u c e s hi hbx hn he hfl ⟨?_, quasiNewtonPoint_inBox c s hX hi.glen ?_⟩
  · rw [hi.mats, if_neg hX, hki, hstep]
    exact hstrict
  · rw [← smul_one' s.g]
    exact inBoxF_of_strict hstrict

/-- **C12 (run level, data only)** at every loop-head state with stored pairs a fresh run of the complete model reaches -/
theorem run_iteration_is_lbfgs_data [Dcsrch.DcOps K] (u : User K ε) (c : Cfg K) (e a : K)
    (hck : c.checkpoint = none) (hS : c.hasScaler = false) (hU : c.hasUpdate = false) (hT : c.ftarget = none)
    (hg : c.gtol = .const a) (hm : 1 ≤ c.maxcor) (hbox : BoxOk c.lb c.ub) (hx0 : c.x0.length = c.lb.length)
    (hn : 0 < c.lb.length) (he : 0 ≤ c.epsSY) (hgl : GradLen u c)
    (i0 : Init K) (s0 s : St K) (hi0 : initEval u c = .ok i0) (hp0 : prepare u c i0 = .ok s0)
    (hr : Reach u (concreteOracles c.lb c.ub e) c s0 s)
    (hX : s.X.length > 1) (hgne : vec s.x.length s.g ≠ 0) (hfl : FloorOK c e s) (hnb : NoBoundData c s) :
    vec s.x.length ((concreteOracles c.lb c.ub e).xbar s.x s.g s.mats) = quasiNewtonPoint s :=
  state_is_lbfgs_data u c e s
    (fresh_reach_dinv u c e a hck hS hU hT hg hm hbox hx0 hgl i0 s0 s hi0 hp0 hr)
    hbox hn he hX hgne hfl hnb

/-- the box test as a Boolean: a witness discharges `InBoxF` by kernel evaluation (`inBoxF_of_B`) -/
def inBoxB : Vec K → Vec K → Vec K → Bool
  | [], [], [] => true
  | l :: ls, u :: us, p :: ps => decide (l ≤ p) && decide (p ≤ u) && inBoxB ls us ps
  | _, _, _ => false

theorem inBoxF_of_B (lb ub p : Vec K) (h : inBoxB lb ub p = true) : InBoxF lb ub p := by
  fun_induction inBoxB lb ub p with
  | case1 => trivial
  | case2 l ls u us q qs ih =>
    simp only [Bool.and_eq_true, decide_eq_true_eq] at h
    exact ⟨⟨h.1.1, h.1.2⟩, ih h.2⟩
  | case3 => exact absurd h Bool.false_ne_true

theorem noBound_nopairs (c : Cfg K) (e : K) (s : St K) (hX : ¬ s.X.length > 1) (hm : s.mats = none)
    (hgl : s.g.length = s.x.length)
    (h1 : StrictIn c.lb c.ub (cauchy (kernelInput s.x s.g c.lb c.ub none e)).1)
    (h2 : inBoxB c.lb c.ub (vsub s.x s.g) = true) : NoBound c e s :=
  ⟨hm ▸ h1, quasiNewtonPoint_inBox c s hX hgl (inBoxF_of_B _ _ _ h2)⟩

/-! ### Non-vacuity (ℚ): the instance of `C06Sim` (`f = ½|x|²` on `[−2,2]²` from `(1,1)`), complete model, no floor: at the state the
run enters its loop with, no bound interferes (the Cauchy point `(0,0)` is strictly inside the box and so is `x − g = (0,0)`) and
`run_iteration_is_lbfgs` applies. -/

theorem bpOrder_two : bpOrder ([some 3, some 3] : List (Option ℚ)) = [0, 1] := by
  have hf : ((List.range ([some 3, some 3] : List (Option ℚ)).length).filter fun i =>
      bpPos (([some 3, some 3] : List (Option ℚ)).getD i none)) = [0, 1] := by decide +kernel
  unfold bpOrder
  rw [hf]
  -- the indices are in order already, and the sort leaves such a list as it is
  exact List.mergeSort_of_pairwise (by decide +kernel)

def exI : CauchyIn ℚ := kernelInput [1, 1] [1, 1] [-2, -2] [2, 2] none (0 : ℚ)
theorem ex_bp : breakpoints exI.x exI.g exI.lb exI.ub = [some 3, some 3] := by decide +kernel
/-- the Cauchy point of the first iteration of the instance (the sort of the breakpoints is by well-founded recursion, which the
kernel does not unfold: `bpOrder_two` gives its result, the rest is evaluated by the kernel) -/
theorem ex_cauchy : (cauchy exI).1 = [0, 0] := by
  rw [cauchy_eq]
  simp only [ex_bp, bpOrder_two]
  decide +kernel

def nbCheck : Bool :=
  match initEval simUser simCfg with
  | .ok i0 =>
    match prepare simUser simCfg i0 with
    | .ok s0 => decide (s0.X.length = 1) && s0.mats.isNone && decide (s0.x = [1, 1]) && decide (s0.g = [1, 1]) &&
        inBoxB simCfg.lb simCfg.ub (vsub s0.x s0.g)
    | _ => false
  | _ => false

theorem nbCheck_true : nbCheck = true := by decide +kernel

/-- what `nbCheck` tests, read off the state the run enters its loop with -/
theorem ex_start : ∃ (i0 : Init ℚ) (s0 : St ℚ), initEval simUser simCfg = .ok i0 ∧ prepare simUser simCfg i0 = .ok s0 ∧
    s0.X.length = 1 ∧ s0.mats = none ∧ s0.x = [1, 1] ∧ s0.g = [1, 1] ∧
    inBoxB simCfg.lb simCfg.ub (vsub s0.x s0.g) = true := by
  obtain ⟨i0, s0, hi0, hp0⟩ := C06.sim_start
  have h := nbCheck_true
  simp only [nbCheck, hi0, hp0, Bool.and_eq_true, decide_eq_true_eq, Option.isNone_iff_eq_none] at h
  exact ⟨i0, s0, hi0, hp0, h.1.1.1.1, h.1.1.1.2, h.1.1.2, h.1.2, h.2⟩

example : ∃ s0 : St ℚ,
    vec s0.x.length ((concreteOracles simCfg.lb simCfg.ub 0).xbar s0.x s0.g s0.mats) = quasiNewtonPoint s0 := by
  obtain ⟨i0, s0, hi0, hp0, hX, hm, hx, hgv, h2⟩ := ex_start
  have hgl : s0.g.length = s0.x.length := by rw [hx, hgv]
  have h1 : StrictIn simCfg.lb simCfg.ub (cauchy (kernelInput s0.x s0.g simCfg.lb simCfg.ub none 0)).1 := by
    rw [hx, hgv]
    show StrictIn [-2, -2] [2, 2] (cauchy exI).1
    rw [ex_cauchy]
    simp only [StrictIn]
    decide +kernel
  exact ⟨s0, run_iteration_is_lbfgs simUser simCfg 0 (1 / 1000) rfl rfl rfl rfl rfl (by decide)
    sim_boxOk rfl (by decide) (le_refl _) sim_gradLen
    i0 s0 s0 hi0 hp0 Reach.refl (floorOK_zero simCfg s0 (by omega)) (noBound_nopairs simCfg 0 s0 (by omega) hm hgl h1 h2)⟩

/-- the data-only form at the same state: no evaluation of the model's Cauchy routine is needed to see that no bound interferes
(`x − 2g = (−1, −1)` is in the box, `x − g = (0, 0)` strictly) -/
example : ∃ s0 : St ℚ,
    vec s0.x.length ((concreteOracles simCfg.lb simCfg.ub 0).xbar s0.x s0.g s0.mats) = quasiNewtonPoint s0 := by
  obtain ⟨i0, s0, hi0, hp0, hX, hm, hx, hgv, h2⟩ := ex_start
  have hdinv := fresh_dinv simUser simCfg (1 / 1000) rfl rfl rfl rfl rfl sim_boxOk rfl sim_gradLen i0 s0 hi0 hp0
  refine ⟨s0, state_is_lbfgs_data0 simUser simCfg 0 s0 hdinv sim_boxOk (by decide) (le_refl _)
    (by omega) ?_ (floorOK_zero simCfg s0 (by omega)) ⟨⟨2, by norm_num, ?_⟩, ?_⟩⟩
  · rw [hx, hgv]
    intro e
    exact one_ne_zero ((vec_eq_zero_iff 2 [1, 1] rfl).1 e 1 List.mem_cons_self)
  · rw [hx, hgv]
    exact inBoxF_of_B _ _ _ (by decide +kernel)
  · rw [hx, hgv]
    simp only [simCfg, vsub, smul, vzip, List.map, List.zipWith, StrictIn]
    decide +kernel

end Lbfgsb.C12
