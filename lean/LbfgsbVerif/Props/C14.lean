/-
  C14 — runs are deterministic, isolated from each other, and do not touch their inputs.

  Three layers. (1) Isolation is a statement about schedules of two state machines, each over
  its own state. (2) That the package's runs ARE such machines — that there is no state outside
  the per-call objects — is read off the source on every run by the translator
  `translate/state2lean.py` (tables `Generated.State.globals/defaults/display`) and checked here
  by kernel evaluation. (3) Determinism: the driver model `minimize` is a function of its inputs
  and of the answers of the user's callables and of the numerical kernels, and the
  correspondence check replays every explored run (with `iprint` and `logger` drawn at random,
  which the model does not even take as inputs) bit for bit through that function. What the
  theorems cannot exclude — a write into a caller's array through an alias, a kernel keeping
  state in C — is decided by the search: frozen (read-only) inputs, repeated / interleaved
  (threads, enumerated schedules) / nested calls compared bit for bit.
-/
import LbfgsbVerif.Generated.State
import LbfgsbVerif.Model.Shell

namespace Lbfgsb.C14

section schedules
variable {S₁ S₂ : Type}

/-- run the two machines under a schedule: `true` = one step of run 1, `false` = one step of
run 2 (a run that has finished ignores further steps: `step` is then the identity on it) -/
def interleave (step₁ : S₁ → S₁) (step₂ : S₂ → S₂) : List Bool → S₁ × S₂ → S₁ × S₂
  | [], s => s
  | true :: rest, s => interleave step₁ step₂ rest (step₁ s.1, s.2)
  | false :: rest, s => interleave step₁ step₂ rest (s.1, step₂ s.2)

def iter {S : Type} (f : S → S) : Nat → S → S
  | 0, s => s
  | n + 1, s => iter f n (f s)

/-- **C14 — isolation.** When each step of run 1 reads and writes only the first component and
each step of run 2 only the second, every interleaving of their steps — any schedule, of any
length — ends in the pair of states the two runs reach alone. -/
theorem interleaving_independent (step₁ : S₁ → S₁) (step₂ : S₂ → S₂) (sched : List Bool)
    (s : S₁ × S₂) :
    interleave step₁ step₂ sched s =
      (iter step₁ (sched.count true) s.1, iter step₂ (sched.count false) s.2) := by
  induction sched generalizing s with
  | nil => rfl
  | cons b rest ih =>
    cases b <;> simp [interleave, ih, iter]

/-- two schedules that give each run the same number of steps end in the same pair of states -/
theorem schedule_irrelevant (step₁ : S₁ → S₁) (step₂ : S₂ → S₂) (a b : List Bool) (s : S₁ × S₂)
    (h1 : a.count true = b.count true) (h2 : a.count false = b.count false) :
    interleave step₁ step₂ a s = interleave step₁ step₂ b s := by
  rw [interleaving_independent, interleaving_independent, h1, h2]

/-- nesting is the schedule that inserts all of run 2 between two steps of run 1 -/
theorem nested_independent (step₁ : S₁ → S₁) (step₂ : S₂ → S₂) (k m r : Nat) (s : S₁ × S₂) :
    interleave step₁ step₂ (List.replicate k true ++ List.replicate m false ++ List.replicate r true) s =
      (iter step₁ (k + r) s.1, iter step₂ m s.2) := by
  rw [interleaving_independent]
  simp [List.count_append, List.count_replicate]

end schedules

open Generated.State

/-- **C14 — no state outside the call.** No module-level or class-level mutable object, memoised
function or function attribute is written by package code. -/
theorem no_shared_mutable_state : ∀ g ∈ globals, g.writes = [] := by decide +kernel

/-- No parameter with a mutable default is written, and the only callee such a default is handed
to is the legacy Fortran line search `sp.optimize.minpack2.dcsrch`, which the code reaches only
for SciPy < 1.12 (the harness asserts on every run that the installed SciPy is newer). -/
theorem no_mutable_default_written :
    ∀ d ∈ defaults, d.writes = [] ∧ ∀ e ∈ d.escapes, e = "sp.optimize.minpack2.dcsrch" := by
  decide +kernel

/-- No block guarded by `iprint`/`logger`, and no display helper, assigns a name that is read
elsewhere, modifies anything in place, or transfers control: `iprint` and `logger` cannot
influence a numerical output. -/
theorem display_is_read_only :
    ∀ d ∈ display, d.leaks = [] ∧ d.writes = [] ∧ d.jumps = [] := by decide +kernel

/-- Nor does display code call anything that can reach a user callable: no evaluation is made for
a message. "Can reach a user callable" is decided on a conservative name-based call graph (nested
functions such as the line search's `phi` included). What is displayed costs no evaluation, so
the evaluation cap of a line search (C11) and the counters (C05, C15) do not depend on the
display level either. -/
theorem display_evaluates_nothing : ∀ d ∈ display, d.evals = [] := by decide +kernel

/-- `minimize_lbfgsb` performs no in-place modification of `x0`, `bounds`, `checkpoint`,
`args`, nor of a name bound directly to one of them or to one of the checkpoint's arrays (the
defect repaired by "do not scale the checkpoint's gradient in place" makes this table non-empty).
Flow-insensitive and syntactic: deeper aliasing is covered by the frozen-input search. -/
theorem inputs_not_written : inputWrites = [] := by decide +kernel

section det
variable {α ε δ : Type} [Add α] [Sub α] [Mul α] [Div α] [Neg α] [LT α] [DecidableLT α]
  [OfNat α 0] [OfNat α 1] [FloatLike α]

/-- **C14 — determinism.** The driver is a function: equal inputs, equal answers of the user's callables
and of the kernels ⇒ equal results (in particular two restarts from one checkpoint). Neither
`iprint` nor the logger is an input of the model. -/
theorem run_is_a_function (u u' : User α ε) (o o' : Oracles α δ) (c c' : Cfg α)
    (hu : u = u') (ho : o = o') (hc : c = c') : minimize u o c = minimize u' o' c' := by
  subst hu
  subst ho
  subst hc
  rfl

end det

example : interleave (· + 1) (· + 10) [true, false, true, true, false] ((0 : Nat), (0 : Nat)) = (3, 20) := by
  decide +kernel
example : globals ≠ [] ∧ defaults ≠ [] ∧ display.length > 10 := by decide +kernel

end Lbfgsb.C14
