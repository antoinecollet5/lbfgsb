/-
  C13 — "the next iterate equals the one obtained by restarting on the new objective from a checkpoint holding the rewritten history".

  Once the update function has switched the objective it returns its inputs unchanged (the consistent update functions of the property
  do: they rewrite the history once). From the loop state `s` reached right after the redefinition — memory = the rewritten, filtered
  history ending at the current point, matrices rebuilt from it — the two continuations coincide:

    * going on with the run, update function present (and from now on the identity),
    * restarting, WITHOUT any update function, from the checkpoint that is the snapshot of `s`,

  for any number of further iterations: same iterates, values, gradients, correction pairs, counters, termination (everything but the
  ghost logs and the wrapper's cache). Composition of two whole-loop simulations: `mainLoop_gr` (Proofs/Identity: an
  identity update function is transparent from any state satisfying the memory invariant) and C06 `restart_continues`.
-/
import LbfgsbVerif.Props.C06Sim
import LbfgsbVerif.Props.C13Run

namespace Lbfgsb.C13
open C06
variable {K ε δ : Type} [Field K] [LinearOrder K] [IsStrictOrderedRing K]
attribute [local instance] fieldFloatLike

theorem redefinition_acts_as_restart (u : User K ε) (o : Oracles K δ) (c : Cfg K) (s : St K) (X' G' : List (Vec K)) (a : K)
    (ck : Result K)
    (hid : IdUpdate u)
    (hsym : ∀ x g x' g' : Vec K, curvOk x g x' g' c.epsSY = curvOk x' g' x g c.epsSY) (hmc : 1 ≤ c.maxcor)
    (hmem : MemI c s)
    (hs : Restartable (c.up false) s X' G' a) (hck : SnapshotOf ck s)
    (hS : c.hasScaler = false) (hT : c.ftarget = none) (hg : c.gtol = .const a)
    (hcb : ∀ r, u.callback r = .ok false)
    (i : Init K) (sB : St K)
    (hi : initEval u { (c.up false) with checkpoint := some ck, x0 := s.x } = .ok i)
    (hp : prepare u { (c.up false) with checkpoint := some ck, x0 := s.x } i = .ok sB)
    (fuel : Nat)
    (hfe : guard (c.up false) s = true → FirstEval o (c.up false) s.x s.f s.g (vsub (o.xbar s.x s.g s.mats) s.x) s.nit
      (min (c.up false).maxls ((c.up false).maxfun - s.sf.nfev))) :
    (mainLoop u o (c.up true) fuel s).map St.er2 =
      (mainLoop u o { (c.up false) with checkpoint := some ck, x0 := s.x } fuel sB).map St.er2 := by
  have h1 := mainLoop_gr u o hid c hsym hmc fuel (⟨rfl, hmem⟩ : GR c s s)
  have h2 := restart_continues u o (c.up false) s X' G' a ck hs hck hS rfl hT hg hcb i sB hi hp fuel hfe
  rw [← h2]
  exact (RelE.iff_map_eq St.er2).1 (h1.mono fun _ _ h => St.er2_of_er h.1)

/-! ### Non-vacuity (ℚ): the instance of C06Sim — its user's update function returns its inputs; the loop state after one iteration
satisfies the memory invariant and is restartable; three further iterations -/

theorem sim_memI : MemI simCfg simState where
  len := rfl
  pos := List.cons_ne_nil _ _
  pairs := by
    show curvOk _ _ _ _ _ = true ∧ True
    exact ⟨by decide +kernel, trivial⟩
  mats := sim_restartable.mats

example : ∃ sB, (mainLoop simUser simOracles (simCfg.up true) 3 simState).map St.er2 =
    (mainLoop simUser simOracles { (simCfg.up false) with checkpoint := some simState.result, x0 := simState.x } 3 sB).map St.er2 := by
  obtain ⟨i, sB, hi, hp⟩ := sim_restart
  exact ⟨sB, redefinition_acts_as_restart simUser simOracles simCfg simState _ _ _ simState.result (fun _ => rfl)
    (fun x g x' g' => curv_test_symmetric x g x' g' _) (by decide) sim_memI sim_restartable
    (snapshot_result _) rfl rfl rfl (fun _ => rfl) i sB hi hp 3 (fun _ => sim_firstEval)⟩

end Lbfgsb.C13
