/-
  C07 — the callback state is a faithful snapshot usable as a crash checkpoint.

  Level U, and in fact order-free: the theorems below are plain equational facts about the
  driver, valid for every scalar type, every user callable, every kernel / stepper oracle.

  Not aliasing: that the Python objects handed over are not arrays the solver keeps writing into
  is decided by the correspondence check, which compares the retained states as they look at the
  end of the run with the model's values. That a callback answering "go on" does not alter the
  run rests on the non-interference proof of Proofs/Ghost.lean (the call log and the list of
  callback states are ghost).
  Continuation after a crash = restart from the snapshot: C06.
-/
import LbfgsbVerif.Proofs.C07
import LbfgsbVerif.Proofs.Ghost

namespace Lbfgsb.C07
variable {α ε δ : Type}
variable [Add α] [Sub α] [Mul α] [Div α] [Neg α] [LT α] [DecidableLT α] [OfNat α 0] [OfNat α 1]
  [FloatLike α]

/-- **C07 (1)** `maxiter` is used by the guard and the classification only. -/
theorem maxiter_only_in_guard (u : User α ε) (o : Oracles α δ) (c : Cfg α) (k : Nat) :
    (∀ s, iterBody u o { c with maxiter := k } s = iterBody u o c s) ∧
    initEval u { c with maxiter := k } = initEval u c ∧
    (∀ i, prepare u { c with maxiter := k } i = prepare u c i) :=
  ⟨iterBody_indep_maxiter u o c k, initEval_indep_maxiter u c k, prepare_indep_maxiter u c k⟩

/-- **C07 (2) — every callback state is the result of the run cut at that iteration.**
If a run hands the state `cb` to the callback, then the same call with `maxiter = cb.nit`
succeeds and returns a result with the same `x, fun, jac, nfev, njev, nit, sk, yk`. -/
theorem callback_state_eq_run_k (u : User α ε) (o : Oracles α δ) (c : Cfg α)
    (rA : Result α) (sA : St α) (hA : minimize u o c = .ok (rA, sA))
    (cb : Result α) (hcb : cb ∈ sA.cbStates) :
    ∃ rB sB, minimize u o { c with maxiter := cb.nit } = .ok (rB, sB) ∧ SameSnapshot cb rB := by
  obtain ⟨i, hi, ⟨-, he⟩ | ⟨ht, s0, s1, h0, h1, rfl, rfl⟩⟩ := minimize_ok.1 hA
  · -- stopped at once on the target: no callback state at all
    rcases earlyResult_cases c i with ⟨ck, -, e⟩ | ⟨-, s, e, rfl⟩
    · obtain ⟨-, rfl⟩ := Prod.mk.inj (he.trans e)
      cases hcb
    · obtain ⟨-, rfl⟩ := Prod.mk.inj (he.trans e)
      cases hcb
  · rw [classify_cbStates] at hcb
    rcases mainLoop_cbs h1 cb hcb with hin | ⟨sB, hB, hsnap⟩
    · rw [prepare_cbs h0] at hin
      cases hin
    · obtain ⟨t', su', w', e'⟩ := classify_eq { c with maxiter := cb.nit } sB
      refine ⟨_, classify { c with maxiter := cb.nit } sB, minimize_ok.2 ⟨i,
        (initEval_indep_maxiter u c cb.nit).trans hi,
        Or.inr ⟨ht, s0, sB, (prepare_indep_maxiter u c cb.nit i).trans h0, hB, rfl, rfl⟩⟩, ?_⟩
      rw [e']
      exact hsnap

/-- **C07 (3)** the states already handed to the callback are never touched again: whatever
the rest of the run does (any number of further iterations, from any state), the list of
recorded states only grows at its end. -/
theorem snapshot_is_value (u : User α ε) (o : Oracles α δ) (c : Cfg α) (fuel : Nat) (s s' : St α)
    (h : mainLoop u o c fuel s = .ok s') : s.cbStates <+: s'.cbStates := by
  refine mainLoop_inv (I := fun t => s.cbStates <+: t.cbStates) ?_ fuel s s' (List.prefix_refl _) h
  intro t t' flow ht _ hb
  rcases iterBody_cbs hb with e | ⟨cb, -, e, -⟩
  · exact e ▸ ht
  · rw [e]
    exact ht.trans (List.prefix_append _ _)

/-- **C07 (4)** the presence of a callback that returns `False` does not alter the run. -/
theorem callback_false_transparent (u : User α ε) (o : Oracles α δ) (c : Cfg α)
    (hcb : ∀ r, u.callback r = .ok false) :
    (minimize u o { c with hasCallback := true }).map (·.1) =
    (minimize u o { c with hasCallback := false }).map (·.1) :=
  minimize_cb u o hcb c true false

instance : FloatLike Int := ⟨id, fun _ => true⟩

def uZ : User Int String where
  F x := .ok (dot x x)
  Gr x := .ok (smul 2 x)
  fdPts _ _ := []
  fdComb _ _ _ := []
  callback _ := .ok false
  update i := .ok ⟨i.f0, i.f0Old, i.grad, i.G⟩
  scaler _ _ := .ok 1
  ftargetFn _ := .ok (-5)
  gtolFn _ := .ok 0

def oZ : Oracles Int Nat where
  xbar x _ _ := x.map (· - 1)
  dcNew _ _ _ _ _ _ := 0
  dcIter n stp _ _ _ := if n = 0 then (1, stp, .fg) else (n + 1, stp, .conv)

def cZ : Cfg Int :=
  { x0 := [3, 2], lb := [-10, -10], ub := [10, 10], mode := .callable, maxcor := 3, maxiter := 2,
    maxfun := 20, maxls := 4, ftol := 0, gtol := .const 0, ftarget := none, maxStep := 100,
    ftolLS := 0, gtolLS := 1, xtolLS := 0, epsSY := 0, hasCallback := true, hasUpdate := false,
    hasScaler := false, checkpoint := none }

/-- two crash points; the second state is `x = [1, 0]`, `nit = 2` -/
example : ∃ r s, minimize uZ oZ cZ = .ok (r, s) ∧ s.cbStates.map (·.nit) = [1, 2] ∧
    (s.cbStates.map (·.x))[1]? = some [1, 0] :=
  exists_ok_of_decide (by decide +kernel)

end Lbfgsb.C07
