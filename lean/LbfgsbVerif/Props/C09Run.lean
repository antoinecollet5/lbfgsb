/-
  C09 about the executable model itself — `subspaceMin` (Model/Subspace.lean), the function the correspondence compares
  with `subspace_minimization` — in exact arithmetic. Each conclusion is proved once from the specification `SubSpec`
  (`newton_point_of_spec`, `displacement_of_spec`, `descent_of_spec`) and stated under `SubCtx` (sizes; feasible Cauchy point;
  non-empty memory; the product with the middle matrix and the small `2m × 2m` solve are exact; `c = Wᵀ(x_cp − x)` as C08 proves
  of the Cauchy step) and under `SubCtx0` (empty memory: nothing is solved).
-/
import LbfgsbVerif.Proofs.SubspaceBridge

namespace Lbfgsb.C09
open Lbfgsb Matrix
variable {K : Type} [Field K] [LinearOrder K] [IsStrictOrderedRing K]

theorem newton_point_of_spec (i : SubIn K) (n k : Nat) (Mm : Matrix (Fin k) (Fin k) K) (h : SubSpec i n k Mm) :
    ∃ (al : K) (u : Vec K), u.length = n ∧ 0 ≤ al ∧ al ≤ 1 ∧ subspaceMin i = vadd i.xc (smul al u) ∧
      InBoxF i.lb i.ub (subspaceMin i) ∧
      (∀ r, maskF n (freeMask i.xc i.lb i.ub) r = false → vec n u r = 0) ∧
      (∀ r, maskF n (freeMask i.xc i.lb i.ub) r = true →
        (vec n i.g + bmat i.theta (wmat n k i.W) Mm *ᵥ ((vec n i.xc - vec n i.x) + vec n u)) r = 0) := by
  obtain ⟨al, ha0, ha1, he, hin⟩ := h.point
  exact ⟨al, subD i, h.d_length, ha0, ha1, he, hin, h.zero_on_active, h.newton⟩

/-- **C09 (the model returns the box-truncated Newton point)** `x̄ = x_cp + α·u` exactly (the final `clip` is the identity),
`0 ≤ α ≤ 1`, `u` zero on the variables on a bound at the Cauchy point, model gradient zero on the free ones -/
theorem subspace_newton_point (i : SubIn K) (n k : Nat) (Mm Minvm : Matrix (Fin k) (Fin k) K)
    (h : SubCtx i n k Mm Minvm) :
    ∃ (al : K) (u : Vec K), u.length = n ∧ 0 ≤ al ∧ al ≤ 1 ∧ subspaceMin i = vadd i.xc (smul al u) ∧
      InBoxF i.lb i.ub (subspaceMin i) ∧
      (∀ r, maskF n (freeMask i.xc i.lb i.ub) r = false → vec n u r = 0) ∧
      (∀ r, maskF n (freeMask i.xc i.lb i.ub) r = true →
        (vec n i.g + bmat i.theta (wmat n k i.W) Mm *ᵥ ((vec n i.xc - vec n i.x) + vec n u)) r = 0) :=
  newton_point_of_spec i n k Mm (subspace_spec i n k Mm Minvm h)

/-- **C09 (… with an empty memory)** no hypothesis on any solve: `B = θI` and nothing is solved -/
theorem subspace_newton_point_nopairs (i : SubIn K) (n k : Nat) (h : SubCtx0 i n k) :
    ∃ (al : K) (u : Vec K), u.length = n ∧ 0 ≤ al ∧ al ≤ 1 ∧ subspaceMin i = vadd i.xc (smul al u) ∧
      InBoxF i.lb i.ub (subspaceMin i) ∧
      (∀ r, maskF n (freeMask i.xc i.lb i.ub) r = false → vec n u r = 0) ∧
      (∀ r, maskF n (freeMask i.xc i.lb i.ub) r = true →
        (vec n i.g + bmat i.theta (wmat n k i.W) (0 : Matrix (Fin k) (Fin k) K) *ᵥ
          ((vec n i.xc - vec n i.x) + vec n u)) r = 0) :=
  newton_point_of_spec i n k 0 (subspace_spec0 i n k h)

theorem displacement_of_spec (i : SubIn K) (n k : Nat) (Mm : Matrix (Fin k) (Fin k) K) (h : SubSpec i n k Mm)
    (hxc : i.xc.length = n) :
    ∃ (al : K) (u : Fin n → K), 0 ≤ al ∧ al ≤ 1 ∧
      vec n (subspaceMin i) - vec n i.x = (vec n i.xc - vec n i.x) + al • u ∧
      (∀ r, maskF n (freeMask i.xc i.lb i.ub) r = false → u r = 0) ∧
      (∀ r, maskF n (freeMask i.xc i.lb i.ub) r = true →
        (vec n i.g + bmat i.theta (wmat n k i.W) Mm *ᵥ ((vec n i.xc - vec n i.x) + u)) r = 0) := by
  obtain ⟨al, u, hul, ha0, ha1, he, -, h1, h2⟩ := newton_point_of_spec i n k Mm h
  refine ⟨al, vec n u, ha0, ha1, ?_, h1, h2⟩
  rw [he, vec_vadd n _ _ hxc (by rw [smul_length, hul]), vec_smul n _ _, add_sub_right_comm]

theorem descent_of_spec (i : SubIn K) (n k : Nat) (Mm : Matrix (Fin k) (Fin k) K) (h : SubSpec i n k Mm)
    (hxc : i.xc.length = n) (hsym : Mmᵀ = Mm)
    (hpsd : ∀ a : Fin n → K, 0 ≤ a ⬝ᵥ (bmat i.theta (wmat n k i.W) Mm *ᵥ a))
    (hc : qmodel (vec n i.g) (bmat i.theta (wmat n k i.W) Mm) (vec n i.xc - vec n i.x) < 0) :
    vec n i.g ⬝ᵥ (vec n (subspaceMin i) - vec n i.x) < 0 := by
  obtain ⟨al, u, ha0, ha1, he, hact, hnewt⟩ := displacement_of_spec i n k Mm h hxc
  rw [he]
  exact direction_descent _ _ (bmat_symm _ _ _ hsym) hpsd _ u _ hact hnewt hc al ha0 ha1

/-- **C09 (model value)** the subspace step of the model never increases the quadratic model
(`B` symmetric positive semi-definite) -/
theorem subspace_model_no_increase (i : SubIn K) (n k : Nat) (Mm Minvm : Matrix (Fin k) (Fin k) K)
    (h : SubCtx i n k Mm Minvm) (hsym : Mmᵀ = Mm)
    (hpsd : ∀ a : Fin n → K, 0 ≤ a ⬝ᵥ (bmat i.theta (wmat n k i.W) Mm *ᵥ a)) :
    qmodel (vec n i.g) (bmat i.theta (wmat n k i.W) Mm) (vec n (subspaceMin i) - vec n i.x) ≤
      qmodel (vec n i.g) (bmat i.theta (wmat n k i.W) Mm) (vec n i.xc - vec n i.x) := by
  obtain ⟨al, u, ha0, ha1, he, hact, hnewt⟩ := displacement_of_spec i n k Mm (subspace_spec i n k Mm Minvm h) h.hxc
  rw [he]
  exact subspace_no_increase _ _ (bmat_symm _ _ _ hsym) _ u
    (masked_newton_condition _ _ _ u _ hact hnewt) (hpsd u) al ha0 ha1

/-- **C09 (descent)** after a Cauchy step with strict model decrease, the search direction
`x̄ − x` of the model is a descent direction -/
theorem subspace_direction_descent (i : SubIn K) (n k : Nat) (Mm Minvm : Matrix (Fin k) (Fin k) K)
    (h : SubCtx i n k Mm Minvm) (hsym : Mmᵀ = Mm)
    (hpsd : ∀ a : Fin n → K, 0 ≤ a ⬝ᵥ (bmat i.theta (wmat n k i.W) Mm *ᵥ a))
    (hc : qmodel (vec n i.g) (bmat i.theta (wmat n k i.W) Mm) (vec n i.xc - vec n i.x) < 0) :
    vec n i.g ⬝ᵥ (vec n (subspaceMin i) - vec n i.x) < 0 :=
  descent_of_spec i n k Mm (subspace_spec i n k Mm Minvm h) h.hxc hsym hpsd hc

/-- **C09 (descent, empty memory)** `θ > 0` is all that is needed of the model -/
theorem subspace_direction_descent_nopairs (i : SubIn K) (n k : Nat) (h : SubCtx0 i n k) (hθ : 0 < i.theta)
    (hc : qmodel (vec n i.g) (bmat i.theta (wmat n k i.W) (0 : Matrix (Fin k) (Fin k) K)) (vec n i.xc - vec n i.x) < 0) :
    vec n i.g ⬝ᵥ (vec n (subspaceMin i) - vec n i.x) < 0 := by
  refine descent_of_spec i n k 0 (subspace_spec0 i n k h) h.hxc transpose_zero ?_ hc
  intro a
  rw [bmat_zero_quad]
  exact mul_nonneg (le_of_lt hθ) (dot_self_nonneg a)

end Lbfgsb.C09

/-! ### Non-vacuity (ℚ): two variables, one stored pair (`k = 2`), `W = I`, `M = diag(−1, ½)`, `θ = 1`,
so `B = I − M = diag(2, ½)`. The point passed as `x_c`, `(¼, 1)` with `c = Wᵀ(x_c − x)`, has its second variable on the upper bound (it
is not the output of `cauchy` on this input, which is `(½, 1)`: `SubCtx` asks for a feasible `x_c`, no more); the reduced gradient on
the free one is `−½`, the Newton step `u = (¼, 0)`, `α* = 1`, `x̄ = (½, 1)`. -/
namespace Lbfgsb.C09
open Lbfgsb Matrix

def exSub : SubIn ℚ :=
  { x := [0, 0], g := [-1, -2], lb := [-1, -1], ub := [1, 1], theta := 1, W := [[1, 0], [0, 1]],
    Minv := [[-1, 0], [0, 2]], useFactor := true, epsFsec := 0, xc := [1 / 4, 1], c := [1 / 4, 1] }

def exM : Matrix (Fin 2) (Fin 2) ℚ := Matrix.of fun a b => if a = b then (if a = 0 then -1 else 1 / 2) else 0
def exMinv : Matrix (Fin 2) (Fin 2) ℚ := Matrix.of fun a b => if a = b then (if a = 0 then -1 else 2) else 0

example : subspaceMin exSub = [1 / 2, 1] := by decide +kernel

theorem ex_subctx : SubCtx exSub 2 2 exM exMinv where
  hx := rfl
  hg := rfl
  hxc := rfl
  hW := rfl
  hrow := by decide
  hcl := rfl
  box := by
    simp only [exSub, InBoxF]
    decide +kernel
  hθ := by decide +kernel
  uf := rfl
  hmvc := by decide +kernel
  hM := by decide +kernel
  hc := by decide +kernel
  hsolve := by decide +kernel

example : ∃ (al : ℚ) (u : Vec ℚ), 0 ≤ al ∧ al ≤ 1 ∧ subspaceMin exSub = vadd exSub.xc (smul al u) :=
  let ⟨al, u, _, h0, h1, he, _⟩ := subspace_newton_point exSub 2 2 exM exMinv ex_subctx
  ⟨al, u, h0, h1, he⟩

end Lbfgsb.C09
