/-
  C09 — the subspace point does not depend on the units (objective multiplied by `a > 0`, variables by `b > 0`): two calls of the model
  with `x_cp' = b x_cp`, `B' = (a/b²) B`, both satisfying `SubSpec` (what `subspace_spec` proves under the solve / pivot / definiteness
  contexts) with `B` positive definite, return `x̄' = b x̄` — the masked Newton step is determined by its specification, the rest is
  `subspaceMin_map`. With an empty memory (`subspace_units_nofactor`) this holds for every feasible Cauchy point, every `θ > 0` and every
  pair of positive factors: an absolute threshold on the step components (seeded change C09-h) contradicts it.
-/
import LbfgsbVerif.Proofs.UnitsSub

namespace Lbfgsb.C09
open Lbfgsb Matrix Lbfgsb.Units
variable {K : Type} [Field K] [LinearOrder K] [IsStrictOrderedRing K]

/-- **C09 (units)** — the same problem in other units with `x_cp' = b x_cp` and `B' = (a/b²) B`, `B` positive definite, both calls
satisfying `SubSpec`: the subspace point of the second is `b` times that of the first -/
theorem subspace_point_units (a b : K) (ha : 0 < a) (hb : 0 < b) (i i' : SubIn K) (n k k' : Nat)
    (Mm : Matrix (Fin k) (Fin k) K) (Mm' : Matrix (Fin k') (Fin k') K)
    (h : SameProblem a b i.toCauchyIn i'.toCauchyIn) (hxc : i'.xc = smul b i.xc)
    (hx : i.x.length = n) (hg : i.g.length = n) (hxcl : i.xc.length = n)
    (spec : SubSpec i n k Mm) (spec' : SubSpec i' n k' Mm')
    (hB : bmat i'.theta (wmat n k' i'.W) Mm' = (a / (b * b)) • bmat i.theta (wmat n k i.W) Mm)
    (pd : ∀ v : Fin n → K, v ≠ 0 → 0 < v ⬝ᵥ (bmat i.theta (wmat n k i.W) Mm *ᵥ v)) :
    subspaceMin i' = smul b (subspaceMin i) := by
  have hbne : b ≠ 0 := hb.ne'
  have z' := spec'.zero_on_active
  have newt' := spec'.newton
  rw [subMask_map (strictMono_scale hb) i i' hxc h.hlb h.hub] at z' newt'
  -- the Newton step of the second call, measured in the old units, satisfies the specification of the first
  have hD : b⁻¹ • vec n (subD i') = vec n (subD i) := by
    refine (masked_newton_unique _ pd (maskF n (subMask i)) (vec n i.g + bmat i.theta (wmat n k i.W) Mm *ᵥ (vec n i.xc - vec n i.x)) _ _ spec.zero_on_active ?_ ?_ ?_).symm
    · intro r hr
      rw [Pi.smul_apply, z' r hr, smul_eq_mul, mul_zero]
    · intro r hr
      rw [add_assoc, ← mulVec_add]
      exact spec.newton r hr
    · intro r hr
      have e := newt' r hr
      rw [hB, h.hg, h.hx, hxc, vec_smul, vec_smul, vec_smul, ← smul_sub, newton_residual_units a b hbne, Pi.smul_apply] at e
      rw [add_assoc, ← mulVec_add]
      exact (smul_eq_zero.1 e).resolve_left (div_pos ha hb).ne'
  have hDlist : subD i' = smul b (subD i) := by
    apply ext_getD (0 : K) (by rw [spec'.d_length, smul_length, spec.d_length])
    intro j hj
    have := congrFun (vec_smul n b (subD i)) ⟨j, spec'.d_length ▸ hj⟩
    rw [← hD, smul_smul, mul_inv_cancel₀ hbne, one_smul] at this
    exact this.symm
  refine subspaceMin_map (strictMono_scale hb) (ratioInv_scale hb) (fun x c t => ?_) i i' hxc h.hlb h.hub hDlist
  rw [mul_add, mul_left_comm]

/-- **C09 (units, empty memory)** — without pairs (`B = θ I`, `θ > 0`) `SubSpec` and the definiteness hold by themselves: the same for
every feasible Cauchy point and every pair of positive factors -/
theorem subspace_units_nofactor (a b : K) (ha : 0 < a) (hb : 0 < b) (i i' : SubIn K) (n k k' : Nat)
    (h : SameProblem a b i.toCauchyIn i'.toCauchyIn) (hxc : i'.xc = smul b i.xc)
    (hθ : 0 < i.theta) (hθ' : i'.theta = a / (b * b) * i.theta)
    (hx : i.x.length = n) (hg : i.g.length = n) (hxcl : i.xc.length = n) (hW : i.W.length = n) (hW' : i'.W.length = n)
    (hrow : ∀ r, r < n → (i.W.getD r []).length = k) (hrow' : ∀ r, r < n → (i'.W.getD r []).length = k')
    (huf : i.useFactor = false) (huf' : i'.useFactor = false) (hbox : InBoxF i.lb i.ub i.xc) :
    subspaceMin i' = smul b (subspaceMin i) := by
  have hθ'pos : 0 < i'.theta := hθ' ▸ mul_pos (factor_pos ha hb) hθ
  have spec := subspace_spec0 i n k ⟨hx, hg, hxcl, hW, hrow, hbox, ne_of_gt hθ, huf⟩
  have spec' := subspace_spec0 i' n k' ⟨by rw [h.hx, smul_length, hx], by rw [h.hg, smul_length, hg], by rw [hxc, smul_length, hxcl],
    hW', hrow', h.hlb ▸ h.hub ▸ hxc ▸ inBoxF_smul b hb _ _ _ hbox, ne_of_gt hθ'pos, huf'⟩
  apply subspace_point_units a b ha hb i i' n k k' 0 0 h hxc hx hg hxcl spec spec'
  · rw [bmat_zero, bmat_zero, hθ', smul_smul]
  · intro v hv
    rw [bmat_zero_quad]
    exact mul_pos hθ (dot_self_pos v hv)

/-! ℚ: the instance of C08Units with `x_c = (¼, −1)` (second variable on its lower bound; a feasible point, not the output `(1, −1)` of `cauchy`) -/

def uS : SubIn ℚ :=
  { x := [0, 0], g := [-1, 2], lb := [-1, -1], ub := [1, 1], theta := 1, W := [[0], [0]], Minv := [[0]], useFactor := false, epsFsec := 0,
    xc := [1 / 4, -1], c := [0] }
def uS' : SubIn ℚ :=
  { x := [0, 0], g := [-3 / 5, 6 / 5], lb := [-5, -5], ub := [5, 5], theta := 3 / 25, W := [[0], [0]], Minv := [[0]], useFactor := false,
    epsFsec := 0, xc := [5 / 4, -5], c := [0] }

example : subspaceMin uS' = smul 5 (subspaceMin uS) := by
  refine subspace_units_nofactor 3 5 (by decide +kernel) (by decide +kernel) uS uS' 2 1 1
    ⟨by decide +kernel, by decide +kernel, by decide +kernel, by decide +kernel⟩ (by decide +kernel) (by decide +kernel) (by decide +kernel)
    rfl rfl rfl rfl rfl (by decide) (by decide) rfl rfl ?_
  simp only [uS, InBoxF]
  decide +kernel

/-- … and the two sides are what one expects: the first variable moves to the unconstrained minimiser `x₁ = 1` of `−x₁ + ½x₁²`, the
second stays on its bound -/
example : subspaceMin uS = [1, -1] ∧ subspaceMin uS' = [5, -5] := by decide +kernel

end Lbfgsb.C09
