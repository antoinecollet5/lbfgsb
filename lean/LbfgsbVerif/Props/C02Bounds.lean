/-
  C02 (entry condition) — what `get_bounds` accepts is a well-formed box containing the start:
  the hypotheses `Ctx2.box`, `Ctx2.n` and "x0 feasible" under which the run-level theorems are
  stated are established by the package's own validation (model: Model/Bounds.lean, compared with
  `lbfgsb.base.get_bounds` on generated valid and malformed inputs by harness/props/c02.py).
  Level U (any order; with NaN read as "no comparison holds", as in NumPy).
-/
import LbfgsbVerif.Model.Bounds
import Mathlib.Order.Defs.LinearOrder
import LbfgsbVerif.Proofs.Except

namespace Lbfgsb.C02
variable {α : Type} [LinearOrder α]

theorem anyGt_false_boxOk (lb ub : Vec α) (hl : lb.length = ub.length) (h : anyGt lb ub = false) :
    BoxOk lb ub := by
  induction lb generalizing ub with
  | nil =>
    obtain rfl := List.eq_nil_of_length_eq_zero hl.symm
    trivial
  | cons l ls ih =>
    obtain ⟨u, us, rfl⟩ := List.exists_cons_of_length_eq_add_one hl.symm
    simp only [anyGt, Bool.or_eq_false_iff, decide_eq_false_iff_not] at h
    exact ⟨h.1, ih us (Nat.succ.inj hl) h.2⟩

theorem anyGt_false_inBox (lb ub x : Vec α) (h1 : lb.length = x.length) (h2 : ub.length = x.length)
    (ha : anyGt lb x = false) (hb : anyGt x ub = false) : InBox lb ub x := by
  induction x generalizing lb ub with
  | nil =>
    obtain rfl := List.eq_nil_of_length_eq_zero h1
    obtain rfl := List.eq_nil_of_length_eq_zero h2
    trivial
  | cons p ps ih =>
    obtain ⟨l, ls, rfl⟩ := List.exists_cons_of_length_eq_add_one h1
    obtain ⟨u, us, rfl⟩ := List.exists_cons_of_length_eq_add_one h2
    simp only [anyGt, Bool.or_eq_false_iff, decide_eq_false_iff_not] at ha hb
    exact ⟨⟨ha.1, hb.1⟩, ih ls us (Nat.succ.inj h1) (Nat.succ.inj h2) ha.2 hb.2⟩

/-- **C02 (0)** an accepted call: non-empty start, bounds of its length, `lb ≤ ub`, start inside. -/
theorem getBounds_ok (negInf posInf : α) (x0 : Vec α) (bounds : Option (List (Option α × Option α)))
    (lb ub : Vec α) (h : getBounds negInf posInf x0 bounds = .ok (lb, ub)) :
    x0 ≠ [] ∧ lb.length = x0.length ∧ ub.length = x0.length ∧ BoxOk lb ub ∧ InBox lb ub x0 := by
  unfold getBounds at h
  obtain ⟨hne, h⟩ := (ite_ok.1 h).resolve_left fun e => nomatch e.2
  obtain ⟨hlen, h⟩ := (ite_ok.1 h).resolve_left fun e => nomatch e.2
  obtain ⟨hgt, h⟩ := (ite_ok.1 h).resolve_left fun e => nomatch e.2
  obtain ⟨hout, h⟩ := (ite_ok.1 h).resolve_left fun e => nomatch e.2
  obtain ⟨rfl, rfl⟩ := Prod.mk.inj (Except.ok.inj h)
  have hl (f : Option α × Option α → α) : ((boundsOrFree x0 bounds).map f).length = x0.length :=
    (List.length_map f).trans (Classical.not_not.1 hlen)
  simp only [Bool.or_eq_true, not_or, Bool.not_eq_true] at hout
  exact ⟨mt List.length_eq_zero_iff.2 hne, hl _, hl _,
    anyGt_false_boxOk _ _ ((hl _).trans (hl _).symm) (Bool.eq_false_iff.2 hgt),
    anyGt_false_inBox _ _ x0 (hl _) (hl _) hout.1 hout.2⟩

theorem getBounds_empty (negInf posInf : α) (bounds : Option (List (Option α × Option α))) :
    getBounds negInf posInf ([] : Vec α) bounds = .error .emptyX := rfl

end Lbfgsb.C02
