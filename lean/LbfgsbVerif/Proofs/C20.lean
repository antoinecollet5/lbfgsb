/-
  Error paths: the model has no handler, so a function of it fails only where a callee fails
  (`FailsWith` passes through `pure`, `>>=`, `if`); at the leaves are the user's seven callables.
-/
import LbfgsbVerif.Proofs.Walk

namespace Lbfgsb
variable {α ε δ : Type}

def UserErr (u : User α ε) (e : ε) : Prop :=
  (∃ p, u.F p = .error e) ∨ (∃ p, u.Gr p = .error e) ∨ (∃ st, u.callback st = .error e) ∨
  (∃ i, u.update i = .error e) ∨ (∃ x g, u.scaler x g = .error e) ∨
  u.ftargetFn () = .error e ∨ u.gtolFn () = .error e

variable {P : ε → Prop}

theorem callF_err {u : SFUser α ε} (hF : ∀ p, FailsWith P (u.F p)) {s : SF α} {p : Vec α} :
    FailsWith P (s.callF u p) :=
  .bind (hF p) fun _ => .pure _

theorem callFs_err {u : SFUser α ε} (hF : ∀ p, FailsWith P (u.F p)) :
    ∀ (s : SF α) (ps : List (Vec α)), FailsWith P (SF.callFs u s ps)
  | _, [] => .pure _
  | _, _ :: ps => .bind (callF_err hF) fun (s1, _) =>
    .bind (callFs_err hF s1 ps) fun _ => .pure _

theorem updFun_err {u : SFUser α ε} (hF : ∀ p, FailsWith P (u.F p)) {s : SF α} :
    FailsWith P (s.updFun u) :=
  .ite (.pure _) (.bind (callF_err hF) fun _ => .pure _)

section sf
variable [LT α] [DecidableLT α] {u : SFUser α ε}

theorem funv_err [Mul α] (hF : ∀ p, FailsWith P (u.F p)) {s : SF α} {x : Vec α} :
    FailsWith P (s.funv u x) :=
  .bind (updFun_err hF) fun _ => .pure _

variable [OfNat α 0]

theorem updGrad_err (hF : ∀ p, FailsWith P (u.F p)) (hG : ∀ p, FailsWith P (u.Gr p))
    {s : SF α} : FailsWith P (s.updGrad u) := by
  unfold SF.updGrad
  refine .ite (.pure _) ?_
  split
  · exact .bind (hG _) fun _ => .pure _
  · exact .bind (updFun_err hF) fun _ => .bind (callFs_err hF _ _) fun _ => .pure _

variable [Mul α]

theorem gradv_err (hF : ∀ p, FailsWith P (u.F p)) (hG : ∀ p, FailsWith P (u.Gr p))
    {s : SF α} {x : Vec α} : FailsWith P (s.gradv u x) :=
  .bind (updGrad_err hF hG) fun _ => .pure _

theorem funAndGrad_err (hF : ∀ p, FailsWith P (u.F p)) (hG : ∀ p, FailsWith P (u.Gr p))
    {s : SF α} {x : Vec α} : FailsWith P (s.funAndGrad u x) :=
  .bind (updFun_err hF) fun _ => .bind (updGrad_err hF hG) fun _ => .pure _

end sf

theorem UserErr.ofF {u : User α ε} (p : Vec α) : FailsWith (UserErr u) (u.F p) :=
  fun _ h => Or.inl ⟨p, h⟩

theorem UserErr.ofGr {u : User α ε} (p : Vec α) : FailsWith (UserErr u) (u.Gr p) :=
  fun _ h => Or.inr (Or.inl ⟨p, h⟩)

theorem UserErr.ofCallback {u : User α ε} {st : Result α} :
    FailsWith (UserErr u) (u.callback st) :=
  fun _ h => Or.inr (Or.inr (Or.inl ⟨st, h⟩))

theorem UserErr.ofUpdate {u : User α ε} {i : UpdIn α} : FailsWith (UserErr u) (u.update i) :=
  fun _ h => Or.inr (Or.inr (Or.inr (Or.inl ⟨i, h⟩)))

theorem UserErr.ofScaler {u : User α ε} {x g : Vec α} :
    FailsWith (UserErr u) (u.scaler x g) :=
  fun _ h => Or.inr (Or.inr (Or.inr (Or.inr (Or.inl ⟨x, g, h⟩))))

theorem UserErr.ofFtarget {u : User α ε} : FailsWith (UserErr u) (u.ftargetFn ()) :=
  fun _ h => Or.inr (Or.inr (Or.inr (Or.inr (Or.inr (Or.inl h)))))

theorem UserErr.ofGtol {u : User α ε} : FailsWith (UserErr u) (u.gtolFn ()) :=
  fun _ h => Or.inr (Or.inr (Or.inr (Or.inr (Or.inr (Or.inr h)))))

theorem evalThresh_err {fn : Unit → Except ε α} {k : CallKind} {sf : SF α}
    (h : FailsWith P (fn ())) : ∀ t : Thresh α, FailsWith P (evalThresh fn k sf t)
  | .const _ => .pure _
  | .callable => .bind h fun _ => .pure _

theorem evalFtarget_err {u : User α ε} {c : Cfg α} {sf : SF α} :
    FailsWith (UserErr u) (evalFtarget u c sf) := by
  unfold evalFtarget
  split
  · exact .pure _
  · exact .bind (evalThresh_err UserErr.ofFtarget _) fun _ => .pure _

theorem applyScaler_err {u : User α ε} {c : Cfg α} {s : St α} {grad : Vec α} :
    FailsWith (UserErr u) (applyScaler u c s grad) :=
  .ite (.bind UserErr.ofScaler fun _ => .pure _) (.pure _)

theorem doCallback_err [Sub α] {u : User α ε} {c : Cfg α} {s : St α} :
    FailsWith (UserErr u) (doCallback u c s) :=
  .ite (.bind UserErr.ofCallback fun _ => .pure _) (.pure _)

section shell
variable {u : User α ε} [LT α] [DecidableLT α] [Mul α] [OfNat α 0]

theorem firstGrad_err {c : Cfg α} {i : Init α} : FailsWith (UserErr u) (firstGrad u c i) := by
  unfold firstGrad
  split
  · exact gradv_err UserErr.ofF UserErr.ofGr
  · exact .pure _

theorem firstEval_err [OfNat α 1] {c : Cfg α} : FailsWith (UserErr u) (firstEval u c) := by
  unfold firstEval
  split
  · exact funv_err UserErr.ofF
  · exact .pure _

variable [Add α]

theorem lsStep_err {o : Oracles α δ} {x0 d lb ub : Vec α} {l : LS α δ} :
    FailsWith (UserErr u) (lsStep u o x0 d lb ub l) :=
  .ite (.bind (funAndGrad_err UserErr.ofF UserErr.ofGr) fun _ => .pure _) (.pure _)

theorem lsLoop_err {o : Oracles α δ} {x0 d lb ub : Vec α} :
    ∀ (fuel : Nat) (l : LS α δ), FailsWith (UserErr u) (lsLoop u o x0 d lb ub fuel l)
  | 0, _ => .pure _
  | fuel + 1, _ => .bind lsStep_err fun r => .ite (lsLoop_err fuel r.1) (.pure _)

variable [Sub α]

theorem applyUpdate0_err {c : Cfg α} {s : St α} : FailsWith (UserErr u) (applyUpdate0 u c s) :=
  .ite (.bind UserErr.ofUpdate fun _ => .pure _) (.pure _)

theorem prepare_err {c : Cfg α} {i : Init α} : FailsWith (UserErr u) (prepare u c i) :=
  .bind firstGrad_err fun _ => .bind applyScaler_err fun _ =>
    .bind applyUpdate0_err fun _ => .pure _

theorem initEval_err [OfNat α 1] {c : Cfg α} : FailsWith (UserErr u) (initEval u c) :=
  .bind firstEval_err fun _ => .bind evalFtarget_err fun _ =>
    .bind (evalThresh_err UserErr.ofGtol _) fun _ => .pure _

variable [Div α] [OfNat α 1]

theorem lineSearch_err [FloatLike α] {o : Oracles α δ} {c : Cfg α} {x0 : Vec α} {f0 : α} {g0 d : Vec α}
    {nit : Nat} {sf : SF α} {maxIter : Nat} {olog : List (OReq α)} :
    FailsWith (UserErr u) (lineSearch u o c x0 f0 g0 d nit sf maxIter olog) :=
  .bind (lsLoop_err _ _) fun (_, _) => .ite (.pure _) (.ite (.pure _) (.pure _))

variable [Neg α]

theorem afterEval_err {c : Cfg α} {s : St α} {f0Old : α} :
    FailsWith (UserErr u) (afterEval u c s f0Old) :=
  .ite (.bind UserErr.ofUpdate fun _ => .pure _) (.pure _)

theorem iterStep_err {c : Cfg α} {s : St α} {d : Vec α} {stp f0Old : α} :
    FailsWith (UserErr u) (iterStep u c s d stp f0Old) :=
  .bind (funAndGrad_err UserErr.ofF UserErr.ofGr) fun _ =>
    .bind afterEval_err fun (_, _) => .ite (.pure _) (.bind doCallback_err fun _ => .pure _)

variable [FloatLike α]

theorem iterBody_err {o : Oracles α δ} {c : Cfg α} {s : St α} :
    FailsWith (UserErr u) (iterBody u o c s) :=
  .bind lineSearch_err fun
    | (_, none, _) => .pure _
    | (_, some _, _) => iterStep_err

theorem mainLoop_err {o : Oracles α δ} {c : Cfg α} :
    ∀ (fuel : Nat) (s : St α), FailsWith (UserErr u) (mainLoop u o c fuel s)
  | 0, _ => .pure _
  | fuel + 1, _ => .ite (.bind iterBody_err fun
    | (_, .brk) => .pure _
    | (s1, .next) => mainLoop_err fuel s1) (.pure _)

theorem minimize_err {o : Oracles α δ} {c : Cfg α} : FailsWith (UserErr u) (minimize u o c) :=
  .bind initEval_err fun _ => .ite (.pure _)
    (.bind prepare_err fun _ => .bind (mainLoop_err _ _) fun _ => .pure _)

end shell
end Lbfgsb
