/-
  Simulation behind C17: a run with a gradient scaler returning `s` (objective `f`, gradient `∇f`)
  and a run without scaler on the explicitly scaled objective (`s·f`, `s·∇f`) go through states
  that are equal except inside the function wrapper, where run A holds the unscaled values and
  the factor `s`, run B the scaled values and the factor `1` (`SRel`, an instance of `WRel`,
  Proofs/Sim.lean). Level U + the IEEE-exact laws `a * 1 = a` and `¬ a < a`; callable gradient, no target (the
  stop test divides by the factor), no redefinition, fresh run.
-/
import LbfgsbVerif.Proofs.Sim

namespace Lbfgsb
variable {α ε δ : Type}

section
variable [Mul α] [OfNat α 1]

def scaledSF (u : SFUser α ε) (s : α) : SFUser α ε :=
  { F := fun x => (u.F x).map (· * s), Gr := fun x => (u.Gr x).map (vscale · s),
    fdPts := u.fdPts, fdComb := u.fdComb }

def scaledUser (u : User α ε) (s : α) : User α ε := { u with toSFUser := scaledSF u.toSFUser s }

/-- wrapper `a` of the run with the scaler against wrapper `b` of the run on the scaled objective:
`b` caches `s` times what `a` caches; `sA` is `a`'s own factor, `1` before the scaler is called and
`s` after, `b`'s is `1` -/
structure SRel (s sA : α) (a b : SF α) : Prop where
  mode_a : a.mode = .callable
  mode_b : b.mode = .callable
  lb : a.lb = b.lb
  ub : a.ub = b.ub
  x : a.x = b.x
  fUpd : a.fUpd = b.fUpd
  gUpd : a.gUpd = b.gUpd
  nfev : a.nfev = b.nfev
  ngev : a.ngev = b.ngev
  f : a.fUpd = true → b.f = a.f * s
  g : a.gUpd = true → b.g = vscale a.g s
  sa : a.scale = sA
  sb : b.scale = 1

end

section sf
variable [Mul α] [LT α] [DecidableLT α] [OfNat α 0] [OfNat α 1]

theorem SRel.log {s sA : α} {a b : SF α} (h : SRel s sA a b) (la lb : List (Call α)) :
    SRel s sA { a with log := la } { b with log := lb } :=
  { h with }

theorem SRel.updateX {s sA : α} {a b : SF α} (h : SRel s sA a b) (x : Vec α) :
    SRel s sA (a.updateX x) (b.updateX x) := by
  unfold SF.updateX
  rw [← h.x]
  split
  · exact h
  · exact { h with x := rfl, fUpd := rfl, gUpd := rfl, f := by simp, g := by simp }

theorem SRel.updFun {s sA : α} (u : SFUser α ε) {a b : SF α} (h : SRel s sA a b) :
    RelE (fun p q => SRel s sA p q ∧ p.fUpd = true ∧ p.x = a.x) (a.updFun u)
      (b.updFun (scaledSF u s)) := by
  unfold SF.updFun
  rw [← h.fUpd]
  split
  · exact ⟨h, ‹_›, rfl⟩
  · simp only [SF.callF, scaledSF, bind, Except.bind, pure, Except.pure]
    rw [← h.x]
    cases u.F a.x with
    | error e => simp [RelE, Except.map]
    | ok v =>
      dsimp only [Except.map, RelE]
      refine ⟨?_, rfl, rfl⟩
      exact { h with x := rfl, fUpd := rfl, nfev := by simp [h.nfev], f := fun _ => rfl }

theorem SRel.updGrad {s sA : α} (u : SFUser α ε) {a b : SF α} (h : SRel s sA a b) :
    RelE (fun p q => SRel s sA p q ∧ p.gUpd = true ∧ p.fUpd = a.fUpd ∧ p.x = a.x ∧ p.f = a.f)
      (a.updGrad u) (b.updGrad (scaledSF u s)) := by
  unfold SF.updGrad
  rw [← h.gUpd]
  split
  · exact ⟨h, ‹_›, rfl, rfl, rfl⟩
  · -- both wrappers are in callable mode; run B's user returns the gradient times `s`
    rw [h.mode_a, h.mode_b]
    dsimp only
    rw [← h.x]
    refine RelE.bind (R := fun v w => w = vscale v s) (RelE.map_right (vscale · s) (u.Gr a.x)) ?_
    rintro v _ rfl
    refine RelE.pure ⟨?_, rfl, rfl, rfl, rfl⟩
    exact
      { h with
        mode_a := rfl, mode_b := rfl, x := rfl, gUpd := rfl, g := fun _ => rfl
        ngev := by simp [h.ngev] }

theorem SRel.funAndGrad {s : α} (hmul1 : ∀ a : α, a * 1 = a) (u : SFUser α ε) {a b : SF α} (h : SRel s s a b)
    (x : Vec α) :
    RelE (fun p q => SRel s s p.1 q.1 ∧ p.2 = q.2) (a.funAndGrad u x) (b.funAndGrad (scaledSF u s) x) := by
  unfold SF.funAndGrad
  apply RelE.bind ((h.updateX x).updFun u)
  rintro a1 b1 ⟨h1, hf1, -⟩
  apply RelE.bind (h1.updGrad u)
  rintro a2 b2 ⟨h2, hg2, hf2, -, -⟩
  simp only [pure, Except.pure, RelE]
  refine ⟨h2, ?_⟩
  rw [h2.f (by rw [hf2, hf1]), h2.g hg2, h2.sa, h2.sb, hmul1, vscale_one hmul1]

theorem updFun_x (u : SFUser α ε) (a a' : SF α) (h : a.updFun u = .ok a') : a'.x = a.x := by
  rcases updFun_ok.1 h with ⟨-, rfl⟩ | ⟨-, v, -, rfl⟩
  · rfl
  · rfl

theorem SRel.funv {s sA : α} (u : SFUser α ε) {a b : SF α} (h : SRel s sA a b) (x : Vec α) :
    RelE (fun p q => SRel s sA p.1 q.1 ∧ p.1.fUpd = true ∧ p.2 = p.1.f * sA ∧ q.2 = p.1.f * s * 1 ∧
        p.1.x = (a.updateX x).x)
      (a.funv u x) (b.funv (scaledSF u s) x) := by
  unfold SF.funv
  apply RelE.bind ((h.updateX x).updFun u)
  rintro a1 b1 ⟨h1, hf1, hx1⟩
  simp only [pure, Except.pure, RelE]
  exact ⟨h1, hf1, by rw [h1.sa], by rw [h1.f hf1, h1.sb], hx1⟩

theorem SRel.gradv {s sA : α} (u : SFUser α ε) {a b : SF α} (h : SRel s sA a b) (x : Vec α) :
    RelE (fun p q => SRel s sA p.1 q.1 ∧ p.1.gUpd = true ∧ p.1.fUpd = (a.updateX x).fUpd ∧
        p.1.x = (a.updateX x).x ∧ p.1.f = (a.updateX x).f ∧
        p.2 = vscale p.1.g sA ∧ q.2 = vscale (vscale p.1.g s) 1)
      (a.gradv u x) (b.gradv (scaledSF u s) x) := by
  unfold SF.gradv
  apply RelE.bind ((h.updateX x).updGrad u)
  rintro a1 b1 ⟨h1, hg1, hf1, hx1, hff1⟩
  simp only [pure, Except.pure, RelE]
  exact ⟨h1, hg1, hf1, hx1, hff1, by rw [h1.sa], by rw [h1.g hg1, h1.sb]⟩

end sf
section driver
variable [Add α] [Sub α] [Mul α] [Div α] [Neg α] [LT α] [DecidableLT α] [OfNat α 0] [OfNat α 1]
  [FloatLike α]

def TRel (s : α) (a b : St α) : Prop := ∃ sfb, b = { a with sf := sfb } ∧ SRel s s a.sf sfb ∧ a.ftarget = none

theorem srel_wrel (hmul1 : ∀ a : α, a * 1 = a) (uf : SFUser α ε) (s : α) :
    WRel uf (scaledSF uf s) (SRel s s) where
  fg x h := h.funAndGrad hmul1 uf x
  nfev h := h.nfev
  ngev h := h.ngev
  log _ h := h.log _ _

theorem scale_hooks (hmul1 : ∀ a : α, a * 1 = a) (u : User α ε) (s : α) {c c' : Cfg α}
    (hc : LoopCfg c c')
    (hcb : c'.hasCallback = c.hasCallback) (hU : c'.hasUpdate = c.hasUpdate)
    (hnU : c.hasUpdate = false) :
    Hooks u (scaledUser u s) c c' (SRel s s) (fun a => a.ftarget = none) where
  wrel := srel_wrel hmul1 u.toSFUser s
  cfg := hc
  frame := fun hi _ _ _ ht => ht.trans hi
  fail hi := by
    unfold iterFail
    split <;> exact hi
  afterEval f0 h hi := afterEval_same (u' := scaledUser u s) (srel_wrel hmul1 u.toSFUser s) hc
    (fun hi _ _ _ ht => ht.trans hi) hU rfl
      (fun h => absurd (hnU.symm.trans h) Bool.false_ne_true) f0 h hi (fun _ => hi ▸ rfl)
  accept h hi := doCallback_same (u' := scaledUser u s) (srel_wrel hmul1 u.toSFUser s)
    (fun hi _ _ _ ht => ht.trans hi) hcb rfl (memStep_same hc hU h) hi

theorem TRel.result {s : α} {a b : St α} (h : TRel s a b) : a.result = b.result := by
  obtain ⟨sfb, rfl, hsf, -⟩ := h
  simp only [St.result, hsf.nfev, hsf.ngev]

structure ScaleCtx (u : User α ε) (c c' : Cfg α) (s : α) : Prop where
  cfg : c' = { c with hasScaler := false }
  scaler_on : c.hasScaler = true
  fresh : c.checkpoint = none
  noTarget : c.ftarget = none
  callable : c.mode = .callable
  noUpdate : c.hasUpdate = false
  scaler : ∀ x g, u.scaler x g = .ok s
  mul_one : ∀ a : α, a * 1 = a

/-- before run A calls its scaler both wrappers have factor 1; values keep the shape the wrapper
computes (`f * 1`): `a * 1 = a` is a hypothesis at this level, applied once, in `prepare_rel` -/
def IRel (s : α) (i j : Init α) : Prop :=
  ∃ sfb, j = { i with sf := sfb, f0 := i.sf.f * s * 1 } ∧ SRel s 1 i.sf sfb ∧ i.sf.fUpd = true ∧
    i.f0 = i.sf.f * 1 ∧ i.ftarget = none ∧ i.X = [] ∧ i.G = [] ∧ i.sf.x = i.x

theorem evalThresh_rel {s : α} (fn : Unit → Except ε α) (k : CallKind) {a b : SF α}
    (h : SRel s 1 a b)
    (t : Thresh α) :
    RelE (fun p q => SRel s 1 p.1 q.1 ∧ p.2 = q.2 ∧ p.1.fUpd = a.fUpd ∧ p.1.f = a.f ∧ p.1.x = a.x)
      (evalThresh fn k a t) (evalThresh fn k b t) := by
  cases t with
  | const v => exact RelE.pure ⟨h, rfl, rfl, rfl, rfl⟩
  | callable =>
    unfold evalThresh
    refine RelE.bind (R := Eq) (RelE.refl _) ?_
    rintro v _ rfl
    exact RelE.pure ⟨h.log _ _, rfl, rfl, rfl, rfl⟩

theorem initEval_rel {s : α} (u : User α ε) (c c' : Cfg α) (hx : ScaleCtx u c c' s) :
    RelE (IRel s) (initEval u c) (initEval (scaledUser u s) c') := by
  rw [hx.cfg]
  unfold initEval firstEval evalFtarget
  simp only [hx.fresh, hx.noTarget, hx.callable]
  have h0 : SRel s 1 (SF.new .callable (clip c.x0 c.lb c.ub) c.lb c.ub : SF α)
      (SF.new .callable (clip c.x0 c.lb c.ub) c.lb c.ub : SF α) :=
    ⟨rfl, rfl, rfl, rfl, rfl, rfl, rfl, rfl, rfl, by simp [SF.new], by simp [SF.new], rfl, rfl⟩
  apply RelE.bind (h0.funv u.toSFUser _)
  rintro ⟨a1, a2⟩ ⟨b1, b2⟩ ⟨h1, hf, ea, eb, hxx⟩
  simp only [pure, Except.pure, bind, Except.bind]
  have hxa : a1.x = clip c.x0 c.lb c.ub := by
    rw [hxx]
    unfold SF.updateX
    split <;> rfl
  refine RelE.bind (evalThresh_rel (s := s) u.gtolFn .gtol h1 c.gtol) ?_
  rintro ⟨g1, g2⟩ ⟨g1', g2'⟩ ⟨h2, e2, e3, e4, e5⟩
  simp only at e2 e3 e4 e5
  subst e2
  dsimp only [RelE, IRel]
  refine ⟨g1', ?_, h2, e3 ▸ hf, ?_, rfl, rfl, rfl, e5 ▸ hxa⟩
  · simp only [Init.mk.injEq, true_and, and_true]
    rw [e4]
    exact eb
  · rw [e4]
    exact ea

-- the values differ by `* 1` in three places (`e1`, `e2`), where `a * 1 = a` is used
theorem prepare_rel {s : α} (hir : ∀ a : α, ¬ a < a) (u : User α ε) (c c' : Cfg α)
    (hx : ScaleCtx u c c' s)
    {i j : Init α} (h : IRel s i j) :
    RelE (TRel s) (prepare u c i) (prepare (scaledUser u s) c' j) := by
  obtain ⟨sfb, rfl, hsf, hfu, hf0, hnt, hX, hG, hxx⟩ := h
  rw [hx.cfg]
  unfold prepare firstGrad applyScaler applyUpdate0 initMemory
  simp only [hx.fresh, hx.noUpdate, hx.scaler_on, Bool.false_eq_true, if_false, if_true]
  have hup : i.sf.updateX i.x = i.sf := hxx ▸ updateX_same hir i.sf
  refine RelE.bind (hsf.gradv u.toSFUser i.x) ?_
  rintro ⟨a1, ga⟩ ⟨b1, gb⟩ ⟨h1, hg1, hf1, hx1, hff1, ea, eb⟩
  rw [hup] at hf1 hx1 hff1
  simp only at ea eb hg1 hf1 hx1 hff1
  simp only [bind, Except.bind, pure, Except.pure, St.logCall, Init.state, hx.scaler]
  simp only [hX, hG, List.length_nil, Nat.lt_irrefl, if_false, gt_iff_lt, RelE]
  have hsf' : SRel s s { a1 with scale := s, log := a1.log ++ [Call.mk .scaler i.x] } b1 :=
    { h1 with sa := rfl }
  refine ⟨b1, ?_, hsf', hnt⟩
  have e1 : i.f0 * s = i.sf.f * s * 1 * b1.scale := by
    rw [hf0, h1.sb, hx.mul_one, hx.mul_one, hx.mul_one]
  have e2 : vscale ga s = vscale gb b1.scale := by
    rw [ea, eb, h1.sb, vscale_one hx.mul_one, vscale_one hx.mul_one, vscale_one hx.mul_one]
  simp only [St.mk.injEq, true_and, and_true]
  exact ⟨e1.symm, e2.symm, by rw [e2]⟩

/-- **the simulation**: the run with a scaler returning `s` and the run on the explicitly scaled
objective return the same result (same error, or equal `x, fun, jac, counters, message, pairs`) -/
theorem minimize_scaled {s : α} (hir : ∀ a : α, ¬ a < a) (u : User α ε) (o : Oracles α δ) (c c' : Cfg α)
    (hx : ScaleCtx u c c' s) :
    RelE (fun p q => p.1 = q.1) (minimize u o c) (minimize (scaledUser u s) o c') := by
  have hL : LoopCfg c c' := by
    unfold LoopCfg
    rw [hx.cfg]
  have H := scale_hooks hx.mul_one u s hL (by rw [hx.cfg]) (by rw [hx.cfg]) hx.noUpdate
  refine minimize_sim H (R := IRel s) (initEval_rel u c c' hx) ?_ fun i j hij => ?_
  · -- no target in either run: no early exit
    rintro i j ⟨sfb, rfl, -, -, -, hnt, -⟩
    have h0 : ∀ v, targetReached v i.ftarget = false := fun v => hnt ▸ rfl
    exact ⟨(h0 _).trans (h0 _).symm, fun h => absurd ((h0 _).symm.trans h) Bool.false_ne_true⟩
  · exact (prepare_rel hir u c c' hx hij).mono fun a _ ⟨sfb, e, hsf, hT⟩ =>
    ⟨⟨sfb, a.cbStates, a.olog, e, hsf⟩, hT⟩

end driver
end Lbfgsb
