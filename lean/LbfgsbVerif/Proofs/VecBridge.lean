/-
  Bridge between the list vectors of the executable models and Mathlib's `Fin n → K` vectors
  (`dotProduct`, `Matrix.mulVec`): the bilinear algebra of the Cauchy search is done there.
-/
import LbfgsbVerif.Model.Cauchy
import LbfgsbVerif.Proofs.BasicF
import Mathlib.Algebra.BigOperators.Fin
import Mathlib.LinearAlgebra.Matrix.DotProduct

namespace Lbfgsb
open Matrix
variable {K : Type} [Field K]

def vec (n : Nat) (l : List K) : Fin n → K := fun r => l.getD r 0

theorem dot_vec (n : Nat) (a b : List K) (ha : a.length = n) (hb : b.length = n) :
    dot a b = vec n a ⬝ᵥ vec n b := by
  induction n generalizing a b with
  | zero =>
    obtain rfl := List.eq_nil_of_length_eq_zero ha
    exact (Fin.sum_univ_zero _).symm
  | succ m ih =>
    obtain ⟨x, xs, rfl⟩ := List.exists_cons_of_length_eq_add_one ha
    obtain ⟨y, ys, rfl⟩ := List.exists_cons_of_length_eq_add_one hb
    rw [dotProduct, Fin.sum_univ_succ, dot_cons, ih xs ys (Nat.succ.inj ha) (Nat.succ.inj hb)]
    rfl

theorem vec_vzip (n : Nat) (f : K → K → K) (a b : List K) (ha : a.length = n) (hb : b.length = n) (r : Fin n) :
    vec n (vzip f a b) r = f (vec n a r) (vec n b r) :=
  getD_vzip _ _ _ _ r (ha ▸ r.2) (hb ▸ r.2)

theorem vec_vadd (n : Nat) (a b : List K) (ha : a.length = n) (hb : b.length = n) :
    vec n (vadd a b) = vec n a + vec n b :=
  funext (vec_vzip n _ a b ha hb)

theorem vec_vsub (n : Nat) (a b : List K) (ha : a.length = n) (hb : b.length = n) :
    vec n (vsub a b) = vec n a - vec n b :=
  funext (vec_vzip n _ a b ha hb)

theorem vec_map (n : Nat) (f : K → K) (hf : f 0 = 0) (l : List K) : vec n (l.map f) = fun r => f (vec n l r) :=
  funext fun r => getD_map_zero f hf l r

theorem vec_smul (n : Nat) (c : K) (v : List K) : vec n (smul c v) = c • vec n v :=
  vec_map n (c * ·) (mul_zero c) v

theorem vec_zeros (k : Nat) (l : List K) : vec k (l.map fun _ => (0 : K)) = 0 :=
  vec_map k (fun _ : K => (0 : K)) rfl l

theorem vec_axpy (k : Nat) (a b : List K) (t : K) (ha : a.length = k) (hb : b.length = k) :
    (vadd a (smul t b)).length = k ∧ vec k (vadd a (smul t b)) = vec k a + t • vec k b := by
  have hsb : (smul t b).length = k := by rw [smul_length, hb]
  refine ⟨by rw [vadd_length, ha, hsb, Nat.min_self], ?_⟩
  rw [vec_vadd k _ _ ha hsb, vec_smul k _ _]

theorem vec_set (n : Nat) (a : List K) (ib : Fin n) (v : K) (ha : a.length = n) :
    vec n (a.set ib v) = Function.update (vec n a) ib v := by
  funext r
  simp only [vec, Function.update_apply]
  rw [getD_set]
  by_cases h : r = ib
  · rw [h, if_pos ⟨rfl, ha ▸ ib.2⟩, if_pos rfl]
  · rw [if_neg (fun hh => h (Fin.ext hh.1.symm)), if_neg h]

/-- `vec_set` takes `ib : Fin n`, and the coercion `↑⟨ib, hib⟩` in its left side blocks `rw` on `a.set ib v` -/
theorem vec_set_nat (n : Nat) (a : List K) (ib : Nat) (hib : ib < n) (v : K) (ha : a.length = n) :
    vec n (a.set ib v) = Function.update (vec n a) ⟨ib, hib⟩ v :=
  vec_set n a ⟨ib, hib⟩ v ha

theorem vec_ne_zero_of_getD {n : Nat} (d : List K) (ib : Nat) (hib : ib < n) (h : d.getD ib 0 ≠ 0) : vec n d ≠ 0 :=
  fun h0 => h (congrFun h0 ⟨ib, hib⟩)

theorem vec_eq_zero_iff (n : Nat) (l : List K) (hl : l.length = n) : vec n l = 0 ↔ ∀ a ∈ l, a = 0 := by
  subst hl
  rw [List.forall_mem_iff_getElem, funext_iff, Fin.forall_iff]
  refine forall₂_congr fun j hj => ?_
  rw [vec, List.getD_eq_getElem?_getD, List.getElem?_eq_getElem hj]
  exact Iff.rfl

def wmat (n k : Nat) (W : List (List K)) : Matrix (Fin n) (Fin k) K :=
  fun r j => (W.getD r []).getD j 0

theorem wtv_length (W : List (List K)) (v : List K) (k : Nat) : (wtv W v k).length = k := by
  rw [wtv, List.length_map, List.length_range]

theorem vec_col (n k : Nat) (W : List (Vec K)) (hW : W.length = n) (c : Fin k) :
    vec n (W.map fun row => row.getD c 0) = fun r => wmat n k W r c := by
  funext r
  have hr : (r : Nat) < W.length := hW ▸ r.2
  rw [vec, getD_map (fun row => row.getD c 0) W [] r hr]
  rfl

theorem vec_wtv (n k : Nat) (W : List (List K)) (v : List K) (hW : W.length = n) (hv : v.length = n) :
    vec k (wtv W v k) = (wmat n k W)ᵀ *ᵥ vec n v := by
  funext j
  rw [vec, wtv, getD_map_range _ _ _ _ j.2, dot_vec n _ v ((List.length_map _).trans hW) hv, vec_col n k W hW j]
  rfl

theorem vec_rows_dot (n k : Nat) (W : List (Vec K)) (v : Vec K) (hW : W.length = n)
    (hrow : ∀ r, r < n → (W.getD r []).length = k) (hv : v.length = k) :
    vec n (W.map fun row => dot row v) = wmat n k W *ᵥ vec k v := by
  funext r
  have hr : (r : Nat) < W.length := hW.symm ▸ r.2
  rw [vec, getD_map (fun row => dot row v) W [] r hr, dot_vec k _ v (hrow r r.2) hv]
  rfl

theorem vec_row (n k : Nat) (W : List (List K)) (ib : Fin n) :
    vec k (W.getD ib []) = wmat n k W ib := rfl

theorem eq_mulVec_of_mul_eq_one {k R : Type} [Fintype k] [DecidableEq k] [Semiring R] {A B : Matrix k k R}
    (h : B * A = 1) {x y : k → R} (hxy : A.mulVec x = y) : x = B.mulVec y := by
  rw [← hxy, Matrix.mulVec_mulVec, h, Matrix.one_mulVec]

section quadratic
variable {n : Type} [Fintype n]

theorem quad_symm (B : Matrix n n K) (hB : Bᵀ = B) (u v : n → K) : u ⬝ᵥ (B *ᵥ v) = v ⬝ᵥ (B *ᵥ u) := by
  rw [dotProduct_mulVec, ← mulVec_transpose, hB, dotProduct_comm]

variable [LinearOrder K] [IsStrictOrderedRing K]

theorem dot_self_nonneg (x : n → K) : 0 ≤ x ⬝ᵥ x :=
  Finset.sum_nonneg fun i _ => mul_self_nonneg (x i)

theorem dot_self_pos (x : n → K) (hx : x ≠ 0) : 0 < x ⬝ᵥ x :=
  (dot_self_nonneg x).lt_of_ne fun h => hx (dotProduct_self_eq_zero.1 h.symm)

end quadratic

section order
variable [LinearOrder K]

theorem all_zero_iff (n : Nat) (l : List K) (hl : l.length = n) :
    l.all (fun a => feq a 0) = true ↔ vec n l = 0 := by
  rw [vec_eq_zero_iff n l hl, List.all_eq_true]
  exact forall₂_congr fun a _ => feq_iff a 0

end order

end Lbfgsb
