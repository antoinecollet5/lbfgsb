/-
  The Moré–Thuente stepper model proposes only steps in `[0, stpmax]` — for ANY arithmetic and
  any interpretation of `** 2`, `<=`, `==` (level U): the step is the input step (checked at
  START), a `clip`, or the best step so far, which is `0` or an earlier step.
-/
import LbfgsbVerif.Model.Dcsrch
import LbfgsbVerif.Proofs.Basic

namespace Lbfgsb.Dcsrch
open Lbfgsb
-- the operations come into scope as the functions of the model need them
variable {α : Type} [LinearOrder α] [OfNat α 0]

/-- `x ∈ [0, hi]`, in the form the tests of the stepper (all `<`) give and take it -/
def InR (hi x : α) : Prop := ¬ x < 0 ∧ ¬ hi < x

theorem InR.le {hi x : α} (h : InR hi x) : 0 ≤ x ∧ x ≤ hi :=
  ⟨not_lt.1 h.1, not_lt.1 h.2⟩

theorem clip_inR {lo hi : α} (h0 : ¬ lo < 0) (hlh : ¬ hi < lo) (y : α) : InR hi (clip1 lo hi y) := by
  refine ⟨?_, clip1_le hlh y⟩
  intro h
  have h1 := clip1_ge hlh y
  exact h1 (lt_of_lt_of_le h (not_lt.1 h0))

/-- what every state of one search keeps, and all that `iterate` needs to propose a step in `[0, hi]` -/
structure Ok (lo hi : α) (st : DC α) : Prop where
  lo_eq : st.stpmin = lo
  hi_eq : st.stpmax = hi
  lo_nonneg : ¬ lo < 0
  lo_le_hi : ¬ hi < lo
  stx_in : InR hi st.stx

theorem Ok.of_frame {lo hi : α} {st st' : DC α} (h : Ok lo hi st) (hlo : st'.stpmin = st.stpmin)
    (hhi : st'.stpmax = st.stpmax) (hx : InR hi st'.stx) : Ok lo hi st' :=
  ⟨hlo.trans h.lo_eq, hhi.trans h.hi_eq, h.lo_nonneg, h.lo_le_hi, hx⟩

section
variable [Sub α] [Neg α]

theorem widen_frame (st : DC α) :
    (widen st).stx = st.stx ∧ (widen st).stpmin = st.stpmin ∧ (widen st).stpmax = st.stpmax := by
  unfold widen
  split <;> exact ⟨rfl, rfl, rfl⟩

end

section
variable [Add α] [Sub α] [Mul α] [Div α] [OfNat α 1]

theorem bounds_frame (st : DC α) (stp : α) :
    (bounds st stp).stx = st.stx ∧ (bounds st stp).stpmin = st.stpmin ∧ (bounds st stp).stpmax = st.stpmax := by
  unfold bounds
  split <;> exact ⟨rfl, rfl, rfl⟩

end

variable [Sub α] [Mul α] [DcOps α]

theorem project_inR (lo hi : α) (st : DC α) (stp : α) (hst : Ok lo hi st) : InR hi (project st stp) := by
  unfold project
  simp only
  split
  · exact hst.stx_in
  · rw [hst.lo_eq, hst.hi_eq]
    exact clip_inR hst.lo_nonneg hst.lo_le_hi _

variable [Add α] [Div α] [OfNat α 1]

theorem start_ok (st : DC α) (stp f g : α) (h : (start st stp f g).2.2 = .fg) :
    Ok st.stpmin st.stpmax (start st stp f g).1 ∧ InR st.stpmax (start st stp f g).2.1 := by
  unfold start at h ⊢
  simp only at h ⊢
  split
  · rename_i hb
    simp [hb] at h
  · rename_i hb
    simp only [Bool.or_eq_true, decide_eq_true_eq, not_or] at hb
    -- the eight tests of `start`, in its order
    obtain ⟨⟨⟨⟨⟨⟨⟨hstp_lo, hstp_hi⟩, -⟩, -⟩, -⟩, -⟩, hlo⟩, hlohi⟩ := hb
    have h0 : ¬ stp < 0 := fun hh => hstp_lo (lt_of_lt_of_le hh (not_lt.1 hlo))
    refine ⟨⟨rfl, rfl, hlo, hlohi, ?_⟩, h0, hstp_hi⟩
    refine ⟨lt_irrefl _, ?_⟩
    intro hh
    exact h0 (lt_of_le_of_lt (not_lt.1 hstp_hi) hh)

variable [Neg α]

theorem finish_ok (lo hi : α) (st : DC α) (stp : α) (hst : Ok lo hi st) :
    Ok lo hi (finish st stp).1 ∧ InR hi (finish st stp).2.1 := by
  have hw := widen_frame st
  have hb := bounds_frame (widen st) (bisect st stp)
  have hok : Ok lo hi (bounds (widen st) (bisect st stp)) := by
    refine hst.of_frame (hb.2.1.trans hw.2.1) (hb.2.2.trans hw.2.2) ?_
    rw [hb.1, hw.1]
    exact hst.stx_in
  unfold finish
  exact ⟨hok, project_inR lo hi _ _ hok⟩

variable [FloatLike α]

theorem dcstep_stx (stx fx dx sty fy dy stp fp dp : α) (b : Bool) (lo hi : α) :
    (dcstep stx fx dx sty fy dy stp fp dp b lo hi).1 = stx ∨
    (dcstep stx fx dx sty fy dy stp fp dp b lo hi).1 = stp := by
  unfold dcstep
  split
  · exact Or.inl rfl
  · split
    · exact Or.inr rfl
    · exact Or.inr rfl

theorem stepCall_stx (st : DC α) (stp f g ftest : α) :
    (stepCall st stp f g ftest).1 = st.stx ∨ (stepCall st stp f g ftest).1 = stp := by
  unfold stepCall
  split
  · exact dcstep_stx _ _ _ _ _ _ _ _ _ _ _ _
  · exact dcstep_stx _ _ _ _ _ _ _ _ _ _ _ _

theorem advance_ok (lo hi : α) (st : DC α) (stp f g ftest : α) (hst : Ok lo hi st) (hstp : InR hi stp) :
    Ok lo hi (advance st stp f g ftest).1 ∧ InR hi (advance st stp f g ftest).2.1 := by
  have hx : InR hi (stepCall st stp f g ftest).1 := by
    rcases stepCall_stx st stp f g ftest with h | h
    · rw [h]
      exact hst.stx_in
    · rw [h]
      exact hstp
  unfold advance
  exact finish_ok lo hi _ _ (hst.of_frame rfl rfl hx)

theorem iterate_start (st : DC α) (stp f g : α) : iterate st stp f g .start = start st stp f g :=
  if_pos rfl

/-- a call after START: converged (both Wolfe tests passed), stuck at the step just evaluated, or
`advance`; up to there the state has changed in `stage` only -/
theorem iterate_cases (st : DC α) (stp f g : α) (task : Task) (ht : task ≠ .start) :
    ∃ stage,
      (DcOps.le f (st.finit + stp * st.gtest) = true ∧
        DcOps.le (fabs g) (st.gtol * (-st.ginit)) = true ∧
        iterate st stp f g task = ({ st with stage := stage }, stp, .conv)) ∨
      iterate st stp f g task = ({ st with stage := stage }, stp, .warn) ∨
      iterate st stp f g task =
        advance { st with stage := stage } stp f g (st.finit + stp * st.gtest) := by
  refine ⟨if st.stage = 1 ∧ DcOps.le f (st.finit + stp * st.gtest) = true ∧ DcOps.le 0 g = true
    then 2 else st.stage, ?_⟩
  unfold iterate
  rw [if_neg ht]
  dsimp only
  split
  · rename_i hc
    rw [Bool.and_eq_true] at hc
    exact Or.inl ⟨hc.1, hc.2, rfl⟩
  · split
    · exact Or.inr (Or.inl rfl)
    · exact Or.inr (Or.inr rfl)

theorem iterate_ok (lo hi : α) (st : DC α) (stp f g : α) (task : Task) (ht : task ≠ .start)
    (hst : Ok lo hi st) (hstp : InR hi stp) :
    Ok lo hi (iterate st stp f g task).1 ∧ InR hi (iterate st stp f g task).2.1 := by
  obtain ⟨stage, h⟩ := iterate_cases st stp f g task ht
  have hst' : Ok lo hi { st with stage := stage } := hst.of_frame rfl rfl hst.stx_in
  rcases h with ⟨-, -, e⟩ | e | e
  · rw [e]
    exact ⟨hst', hstp⟩
  · rw [e]
    exact ⟨hst', hstp⟩
  · rw [e]
    exact advance_ok lo hi _ stp f g _ hst' hstp

theorem iterate_fg_ok (lo hi : α) (st : DC α) (stp f g : α) (task : Task)
    (h1 : task = .start → st.stpmin = lo ∧ st.stpmax = hi)
    (h2 : task ≠ .start → Ok lo hi st ∧ InR hi stp)
    (hfg : (iterate st stp f g task).2.2 = .fg) :
    Ok lo hi (iterate st stp f g task).1 ∧ InR hi (iterate st stp f g task).2.1 := by
  by_cases ht : task = .start
  · obtain ⟨rfl, rfl⟩ := h1 ht
    subst ht
    rw [iterate_start] at hfg ⊢
    exact start_ok st stp f g hfg
  · exact iterate_ok lo hi st stp f g task ht (h2 ht).1 (h2 ht).2

theorem trace_in_range (lo hi : α) (answers : List (α × α)) :
    ∀ (st : DC α) (stp : α) (task : Task),
      (task = .start → st.stpmin = lo ∧ st.stpmax = hi) →
      (task ≠ .start → Ok lo hi st ∧ InR hi stp) →
      ∀ p ∈ trace st stp task answers, p.2 = .fg → InR hi p.1 := by
  induction answers with
  | nil =>
    intro st stp task _ _ p hp
    cases hp
  | cons a rest ih =>
    intro st stp task h1 h2 p hp hfg
    rcases List.mem_cons.1 hp with rfl | hp
    · exact (iterate_fg_ok lo hi st stp a.1 a.2 task h1 h2 hfg).2
    · split at hp
      · rename_i hf
        have hcall := iterate_fg_ok lo hi st stp a.1 a.2 task h1 h2 hf
        exact ih _ _ .fg (fun h => by cases h) (fun _ => hcall) p hp hfg
      · cases hp

end Lbfgsb.Dcsrch
