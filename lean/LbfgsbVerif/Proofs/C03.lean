/-
  Invariants of the shell used by the C03 theorems (the objective never increases between
  accepted iterates). Level U: only the order is used; `*` (scaling) is uninterpreted.
-/
import LbfgsbVerif.Proofs.C04

namespace Lbfgsb
variable {α ε δ : Type}
variable [LinearOrder α]

def NonInc : List α → Prop
  | a :: b :: rest => ¬ a < b ∧ NonInc (b :: rest)
  | _ => True

/-- `NonInc` compares neighbours; `≥` being transitive, that is every entry against every later one -/
theorem nonInc_iff_pairwise (l : List α) : NonInc l ↔ l.Pairwise fun a b => ¬ a < b := by
  induction l with
  | nil => simp [NonInc]
  | cons a l ih =>
    cases l with
    | nil => simp [NonInc]
    | cons b l =>
      rw [NonInc, ih, List.pairwise_cons (a := a)]
      refine and_congr_left fun hp => ⟨fun hab x hx => ?_, fun h => h b List.mem_cons_self⟩
      rcases List.mem_cons.1 hx with rfl | hx
      · exact hab
      · exact fun hax => List.rel_of_pairwise_cons hp hx (lt_of_le_of_lt (le_of_not_gt hab) hax)

theorem nonInc_snoc (l : List α) (a : α) : NonInc (l ++ [a]) ↔ NonInc l ∧ ∀ x ∈ l, ¬ x < a := by
  simp only [nonInc_iff_pairwise, List.pairwise_append, List.pairwise_singleton, List.mem_singleton,
    forall_eq, true_and]

theorem NonInc.replace_last (l : List α) (a b : α) (h : NonInc (l ++ [a])) (hba : ¬ a < b) :
    NonInc (l ++ [b]) :=
  have h := (nonInc_snoc l a).1 h
  (nonInc_snoc l b).2 ⟨h.1, fun x hx hxb => h.2 x hx (lt_of_lt_of_le hxb (le_of_not_gt hba))⟩

theorem NonInc.dup_last (l : List α) (a : α) (h : NonInc (l ++ [a])) : NonInc (l ++ [a] ++ [a]) :=
  (nonInc_snoc _ a).2 ⟨h, fun x hx => (List.mem_append.1 hx).elim (((nonInc_snoc l a).1 h).2 x)
    fun hx => List.mem_singleton.1 hx ▸ lt_irrefl a⟩

theorem NonInc.head_le_last (l : List α) (a b : α) (h : NonInc (a :: (l ++ [b]))) : ¬ a < b :=
  ((nonInc_snoc (a :: l) b).1 h).2 a List.mem_cons_self

variable [Add α] [Sub α] [Mul α] [Div α] [Neg α] [OfNat α 0] [OfNat α 1] [FloatLike α]

theorem iterBody_nonInc {u : User α ε} {o : Oracles α δ} {c : Cfg α} (hU : c.hasUpdate = false)
    {fstart : α} {s s' : St α} {flow : Flow} (hcoh : Coh u.toSFUser s.sf)
    (hi : NonInc (fstart :: (s.cbStates.map (·.f) ++ [s.f])))
    (h : iterBody u o c s = .ok (s', flow)) :
    NonInc (fstart :: (s'.cbStates.map (·.f) ++ [s'.f])) := by
  refine iterBody_rule (I := fun t => NonInc (fstart :: (t.cbStates.map (·.f) ++ [t.f]))) h
    ?ls ?move ?upd ?flags ?reset ?mem ?cb ?nit
  case ls => exact fun _ _ _ _ => hi
  case move =>
    -- the value at the accepted point is the one the line search found strictly below `s.f`
    intro sfL stp olog sf f g hl he iL
    have ls := lineSearch_sum hcoh hl
    obtain ⟨v, hv, hlt⟩ := ls.downhill stp rfl
    obtain ⟨-, ⟨v', hv', hf'⟩, -⟩ := funAndGrad_sum ls.coh he
    have hdec : f < s.f := by
      rw [hf', Except.ok.inj (hv'.symm.trans hv), ls.scale]
      exact hlt
    exact NonInc.replace_last (fstart :: s.cbStates.map fun r : Result α => r.f) s.f f iL
      (not_lt_of_gt hdec)
  case upd => exact fun _ _ _ hT => absurd (hU.symm.trans hT) Bool.false_ne_true
  case flags => exact fun _ _ _ _ it => it
  case reset => exact fun _ it => it
  case mem => exact fun _ it => it
  case cb =>
    -- the state handed over carries the current value
    intro t _ _ _ _ it
    rw [List.map_append]
    exact NonInc.dup_last (fstart :: t.cbStates.map fun r : Result α => r.f) t.f it
  case nit => exact fun _ it => it

end Lbfgsb
