/-
  Lemmas for C17 (gradient scaler): where and how often the scaler is invoked, and with what.
-/
import LbfgsbVerif.Proofs.C04

namespace Lbfgsb
variable {α ε : Type}

theorem no_scaler_of_loopCalls {l l' : List (Call α)} (h : LogExt LoopCall l l') :
    countK .scaler l' = countK .scaler l := by
  refine countK_ext_of .scaler (fun c hc e => ?_) h
  rw [LoopCall, e] at hc
  exact absurd hc (by decide)

variable [LinearOrder α] [Add α] [Sub α] [Mul α] [OfNat α 0]

theorem prepare_scaler {u : User α ε} {c : Cfg α} (hck : c.checkpoint = none) {i : Init α}
    {s : St α} (hc : Coh u.toSFUser i.sf) (h : prepare u c i = .ok s) :
    ∃ g0, gradSpec u.toSFUser i.sf.lb i.sf.ub i.sf.mode i.x = .ok g0 ∧
      (c.hasScaler = true →
        u.scaler i.x (vscale g0 i.sf.scale) = .ok s.sf.scale ∧
        countK .scaler s.sf.log = countK .scaler i.sf.log + 1) ∧
      (c.hasScaler = false →
        s.sf.scale = i.sf.scale ∧ countK .scaler s.sf.log = countK .scaler i.sf.log) := by
  obtain ⟨sf, g, s1, s2, hg, h1, h2, rfl⟩ := prepare_ok h
  simp only [firstGrad, hck] at hg
  obtain ⟨es, ⟨g0, hg0, rfl⟩, -⟩ := gradv_sum hc hg
  have hE : countK .scaler sf.log = countK .scaler i.sf.log :=
    no_scaler_of_loopCalls (es.log.mono fun _ => evalAt_loopCall)
  have h3 : (initMemory c s2).sf.scale = s1.sf.scale ∧
      countK .scaler (initMemory c s2).sf.log = countK .scaler s1.sf.log := by
    obtain ⟨X, G, m, e⟩ := initMemory_eq c s2
    rw [e]
    rcases applyUpdate0_ok h2 with ⟨-, rfl⟩ | ⟨r, -, -, rfl⟩
    · exact ⟨rfl, rfl⟩
    · exact ⟨rfl, by simp [St.logCall]⟩
  rw [h3.1, h3.2]
  refine ⟨g0, hg0, ?_⟩
  rcases applyScaler_ok h1 with ⟨hN, rfl⟩ | ⟨sc, hY, hsc, rfl⟩
  · rw [hN]
    exact ⟨nofun, fun _ => ⟨es.scale, hE⟩⟩
  · rw [hY, ← hE]
    refine ⟨fun _ => ⟨hsc, ?_⟩, nofun⟩
    simp

variable [OfNat α 1]

theorem initEval_no_scaler {u : User α ε} {c : Cfg α} {i : Init α} (h : initEval u c = .ok i) :
    countK .scaler i.sf.log = 0 := by
  refine countK_ext_of .scaler (l := []) ?_ ⟨_, (List.nil_append _).symm, initEval_log h⟩
  rintro call (h' | h' | h') e
  · have hl := evalAt_loopCall h'
    rw [LoopCall, e] at hl
    exact absurd hl (by decide)
  · cases h'.symm.trans e
  · cases h'.symm.trans e

end Lbfgsb
