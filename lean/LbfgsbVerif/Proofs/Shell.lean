/-
  Summaries of the line search of the shell model (level U: `α` any linear order, arithmetic
  uninterpreted, user callables and oracles arbitrary): what one step, the loop and the whole
  line search do to the wrapper, its log and its counters, and that a returned step is strictly
  downhill.
-/
import LbfgsbVerif.Proofs.Walk
import LbfgsbVerif.Proofs.Count

namespace Lbfgsb
variable {α ε δ : Type}

section
variable [LinearOrder α] [Add α] [Mul α] [OfNat α 0]

def LSCall (u : User α ε) (mode : GradMode) (x0 d lb ub : Vec α) (c : Call α) : Prop :=
  ∃ stp, EvalAt u.toSFUser mode (trial x0 d lb ub stp) c

/-- invariant of the best-trial bookkeeping of the line search (`fBest`, `best`) -/
def BestInv (u : User α ε) (x0 d lb ub : Vec α) (f0 scale : α) (fBest : α) (best : Option α) :
    Prop :=
  ¬ f0 < fBest ∧ ∀ stp, best = some stp →
    fBest < f0 ∧ ∃ v, u.F (trial x0 d lb ub stp) = .ok v ∧ fBest = v * scale

structure LSSum (u : User α ε) (x0 d lb ub : Vec α) (f0 : α) (fuel : Nat) (l l' : LS α δ) :
    Prop where
  coh : Coh u.toSFUser l'.sf
  mode : l'.sf.mode = l.sf.mode
  lb_eq : l'.sf.lb = l.sf.lb
  ub_eq : l'.sf.ub = l.sf.ub
  scale : l'.sf.scale = l.sf.scale
  log : LogExt (LSCall u l.sf.mode x0 d lb ub) l.sf.log l'.sf.log
  nfev_ge : l.sf.nfev ≤ l'.sf.nfev
  nfev_le : l.sf.mode = .callable → l'.sf.nfev ≤ l.sf.nfev + fuel
  ngev_ge : l.sf.ngev ≤ l'.sf.ngev
  best : BestInv u x0 d lb ub f0 l.sf.scale l'.fBest l'.best
  counted : ∀ n g, CountedFrom n g l.sf → CountedFrom n g l'.sf

theorem LSSum.of_eq {u : User α ε} {x0 d lb ub : Vec α} {f0 : α} (fuel : Nat) {l l' : LS α δ}
    (hc : Coh u.toSFUser l.sf) (hb : BestInv u x0 d lb ub f0 l.sf.scale l.fBest l.best)
    (hsf : l'.sf = l.sf) (hfb : l'.fBest = l.fBest) (hbe : l'.best = l.best) :
    LSSum u x0 d lb ub f0 fuel l l' := by
  -- `LSSum` reads `sf`, `fBest` and `best` of `l'` only
  obtain ⟨sf', dc', stp0', fm1', dphim1', task', stp', fBest', best', olog'⟩ := l'
  obtain rfl : sf' = l.sf := hsf
  obtain rfl : fBest' = l.fBest := hfb
  obtain rfl : best' = l.best := hbe
  exact ⟨hc, rfl, rfl, rfl, rfl, LogExt.refl _, Nat.le_refl _, fun _ => Nat.le_add_right _ _,
    Nat.le_refl _, hb, fun _ _ h => h⟩

theorem LSSum.trans {u : User α ε} {x0 d lb ub : Vec α} {f0 : α} {n m : Nat} {l1 l2 l3 : LS α δ}
    (h1 : LSSum u x0 d lb ub f0 n l1 l2) (h2 : LSSum u x0 d lb ub f0 m l2 l3) :
    LSSum u x0 d lb ub f0 (n + m) l1 l3 := by
  refine ⟨h2.coh, h2.mode.trans h1.mode, h2.lb_eq.trans h1.lb_eq, h2.ub_eq.trans h1.ub_eq,
    h2.scale.trans h1.scale, LogExt.trans h1.log (h1.mode ▸ h2.log),
    Nat.le_trans h1.nfev_ge h2.nfev_ge, fun hm => ?_, Nat.le_trans h1.ngev_ge h2.ngev_ge,
    h1.scale ▸ h2.best, fun n g h => h2.counted n g (h1.counted n g h)⟩
  rw [← Nat.add_assoc]
  exact Nat.le_trans (h2.nfev_le (h1.mode.trans hm)) (Nat.add_le_add_right (h1.nfev_le hm) m)

theorem lsStep_sum {u : User α ε} {o : Oracles α δ} {x0 d lb ub : Vec α} {f0 : α}
    {l l' : LS α δ} {cont : Bool} (hc : Coh u.toSFUser l.sf)
    (hb : BestInv u x0 d lb ub f0 l.sf.scale l.fBest l.best)
    (h : lsStep u o x0 d lb ub l = .ok (l', cont)) : LSSum u x0 d lb ub f0 1 l l' := by
  obtain ⟨dc, stp, task, -, ⟨-, -, rfl⟩ | ⟨-, -, sf, f, g, he, rfl⟩⟩ := lsStep_ok h
  · exact LSSum.of_eq 1 hc hb rfl rfl rfl
  · obtain ⟨es, ⟨v, hv, hf⟩, -⟩ := funAndGrad_sum hc he
    refine { es with
      lb_eq := es.lb
      ub_eq := es.ub
      log := es.log.mono fun c hc' => ⟨_, hc'⟩
      best := ?_
      counted := fun n g hcn => funAndGrad_counted hcn he }
    -- a new best is strictly below the old one, which was not above `f0`
    dsimp only
    split
    next hlt =>
      exact ⟨fun hh => hb.1 (lt_trans hh hlt), fun s hs => Option.some.inj hs ▸
        ⟨lt_of_lt_of_le hlt (le_of_not_gt hb.1), v, hv, hf⟩⟩
    next => exact hb

theorem lsLoop_sum {u : User α ε} {o : Oracles α δ} {x0 d lb ub : Vec α} {f0 : α}
    {fuel : Nat} {l l' : LS α δ} {ex : Bool}
    (hc : Coh u.toSFUser l.sf) (hb : BestInv u x0 d lb ub f0 l.sf.scale l.fBest l.best)
    (h : lsLoop u o x0 d lb ub fuel l = .ok (l', ex)) : LSSum u x0 d lb ub f0 fuel l l' := by
  obtain ⟨j, hj, s⟩ := lsLoop_rule (P := fun k t => LSSum u x0 d lb ub f0 k l t)
    (Q := fun k t => LSSum u x0 d lb ub f0 k l t) (fun _ _ s => s)
    (fun k t t' cont s ht =>
      have s' := s.trans (lsStep_sum s.coh (s.scale ▸ s.best) ht)
      ⟨s', fun _ => s'⟩)
    fuel 0 l l' ex (LSSum.of_eq 0 hc hb rfl rfl rfl) h
  rw [Nat.zero_add] at s
  exact { s with nfev_le := fun hm => Nat.le_trans (s.nfev_le hm) (Nat.add_le_add_left hj _) }

variable [Sub α] [Div α] [OfNat α 1] [FloatLike α]

structure LineSearchSum (u : User α ε) (c : Cfg α) (x0 d : Vec α) (f0 : α) (maxIter : Nat)
    (sf sf' : SF α) (stp? : Option α) : Prop where
  coh : Coh u.toSFUser sf'
  mode : sf'.mode = sf.mode
  lb_eq : sf'.lb = sf.lb
  ub_eq : sf'.ub = sf.ub
  scale : sf'.scale = sf.scale
  log : LogExt (LSCall u sf.mode x0 d c.lb c.ub) sf.log sf'.log
  nfev_ge : sf.nfev ≤ sf'.nfev
  nfev_le : sf.mode = .callable → sf'.nfev ≤ sf.nfev + maxIter
  ngev_ge : sf.ngev ≤ sf'.ngev
  downhill : ∀ stp, stp? = some stp →
    ∃ v, u.F (trial x0 d c.lb c.ub stp) = .ok v ∧ v * sf.scale < f0
  counted : ∀ n g, CountedFrom n g sf → CountedFrom n g sf'

theorem lineSearch_sum {u : User α ε} {o : Oracles α δ} {c : Cfg α} {x0 : Vec α} {f0 : α}
    {g0 d : Vec α} {nit : Nat} {sf sf' : SF α} {maxIter : Nat} {olog olog' : List (OReq α)}
    {stp? : Option α} (hc : Coh u.toSFUser sf)
    (h : lineSearch u o c x0 f0 g0 d nit sf maxIter olog = .ok (sf', stp?, olog')) :
    LineSearchSum u c x0 d f0 maxIter sf sf' stp? := by
  obtain ⟨l, ex, hl, hp⟩ := lineSearch_ok h
  obtain ⟨rfl, -, hn⟩ := lsPost_ok hp
  have ls := lsLoop_sum (f0 := f0) hc ⟨lt_irrefl _, fun stp hs => by simp [ls0] at hs⟩ hl
  refine { ls with downhill := fun stp hs => ?_ }
  rcases hn with hn | hn
  · simp [hn] at hs
  · obtain ⟨hlt, v, hv, hf⟩ := ls.best.2 stp (hn ▸ hs)
    exact ⟨v, hv, hf ▸ hlt⟩

end
end Lbfgsb
