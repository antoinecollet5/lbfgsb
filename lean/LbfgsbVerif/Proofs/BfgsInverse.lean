/-
  The inverse BFGS update is the inverse of the direct one: if `H B = 1`, `B` symmetric, `sᵀBs ≠ 0`, `sᵀy ≠ 0`, then
  `invBfgs H s y * bfgs B s y = 1` (field identities only), and over a list of pairs `invChain H ps * bfgsChain B ps = 1` (`B` SPD and
  positive curvature keep every step non-degenerate). The fixed definitions divide by `s ⬝ᵥ y` (`bfgs`) and by `y ⬝ᵥ s` (`invBfgs`):
  `C18.invUpd_secant` and one step of the proof turn the second into the first. This ties the matrix the solver works with (C10:
  `θI − W M Wᵀ` = `bfgsChain (θI) pairs`) to the two-loop operator (C18: `twoLoop H pairs = invChain H pairs`): started from
  `H₀ = θ⁻¹ I`, the two-loop recursion applies the inverse of the solver's matrix.
-/
import LbfgsbVerif.Props.C18TwoLoop

namespace Lbfgsb.BfgsInverse
open Matrix Lbfgsb
variable {n : Type} [Fintype n] [DecidableEq n]
variable {K : Type} [Field K] [LinearOrder K] [IsStrictOrderedRing K]

theorem invBfgs_mul_bfgs (B H : Matrix n n K) (hB : Bᵀ = B) (hHB : H * B = 1) (s y : n → K)
    (hσ : s ⬝ᵥ (B *ᵥ s) ≠ 0) (hτ : s ⬝ᵥ y ≠ 0) :
    C18.invBfgs H s y * C10.bfgs B s y = 1 := by
  refine ext_iff_mulVec.2 fun x => ?_
  rw [one_mulVec, ← mulVec_mulVec, C10.bfgs_mulVec, ← mulVec_smul, ← mulVec_sub, C18.invBfgs_eq_invUpd, mulVec_add, mulVec_smul,
    C18.invUpd_secant H s y hτ, C18.invUpd_mulVec]
  set al := ((B *ᵥ s) ⬝ᵥ x) / (s ⬝ᵥ (B *ᵥ s)) with hal
  set be := (y ⬝ᵥ x) / (s ⬝ᵥ y) with hbe
  -- the direct update sends `x` to `B v + be y` with `v = x − al s`; the inverse update sends `y` to `s` (secant equation), and
  -- `B v` to `v − ρ (y · v) s`, because `s · B v = 0`
  have hv : s ⬝ᵥ (B *ᵥ (x - al • s)) = 0 := by
    rw [dotProduct_mulVec, ← hB, vecMul_transpose, dotProduct_sub, dotProduct_smul, smul_eq_mul, hal,
      dotProduct_comm (B *ᵥ s) s, div_mul_cancel₀ _ hσ, sub_self]
  rw [hv, mul_zero, zero_smul, sub_zero, zero_sub, mulVec_mulVec, hHB, one_mulVec]
  have hy : 1 / (y ⬝ᵥ s) * (y ⬝ᵥ (x - al • s)) = be - al := by
    rw [dotProduct_sub, dotProduct_smul, smul_eq_mul, mul_sub, dotProduct_comm y s, hbe, one_div, inv_mul_eq_div, mul_comm al,
      ← mul_assoc, inv_mul_cancel₀ hτ, one_mul]
  rw [hy, neg_smul, sub_smul]
  abel

theorem invChain_mul_bfgsChain (B H : Matrix n n K) (hB : C10.SPD B) (hHB : H * B = 1)
    (ps : List ((n → K) × (n → K))) (hp : ∀ p ∈ ps, p.1 ≠ 0 ∧ 0 < p.1 ⬝ᵥ p.2) :
    C18.invChain H ps * C10.bfgsChain B ps = 1 := by
  induction ps generalizing B H with
  | nil => exact hHB
  | cons p ps ih =>
    simp only [C18.invChain, C10.bfgsChain]
    obtain ⟨hs, hsy⟩ := hp p (List.mem_cons_self ..)
    apply ih _ _ (C10.bfgs_posdef B hB p.1 p.2 hs hsy)
    · exact invBfgs_mul_bfgs B H hB.1 hHB p.1 p.2 (ne_of_gt (hB.2 p.1 hs)) (ne_of_gt hsy)
    · exact fun q hq => hp q (List.mem_cons_of_mem _ hq)

/-- `hess_inv_is_inverse_bfgs` (C18) is the case `B = H = I` -/
theorem two_loop_inverts (B H : Matrix n n K) (hB : C10.SPD B) (hHB : H * B = 1) (ps : List ((n → K) × (n → K)))
    (hp : ∀ p ∈ ps, 0 < p.1 ⬝ᵥ p.2) (x : n → K) : C18.twoLoop H ps (C10.bfgsChain B ps *ᵥ x) = x := by
  rw [C18.two_loop_eq_chain, C18.chainF_eq_invChain, mulVec_mulVec,
    invChain_mul_bfgsChain B H hB hHB ps fun p h => ⟨C10.ne_zero_of_curv (hp p h), hp p h⟩, one_mulVec]

theorem invChain_theta (θ : K) (hθ : 0 < θ) (ps : List ((n → K) × (n → K)))
    (hp : ∀ p ∈ ps, p.1 ≠ 0 ∧ 0 < p.1 ⬝ᵥ p.2) :
    C18.invChain (θ⁻¹ • (1 : Matrix n n K)) ps * C10.bfgsChain (θ • (1 : Matrix n n K)) ps = 1 := by
  apply invChain_mul_bfgsChain _ _ (C10.scaled_identity_spd θ hθ) _ ps hp
  rw [smul_mul_smul_comm, mul_one, inv_mul_cancel₀ (ne_of_gt hθ), one_smul]

theorem newton_eq_two_loop (θ : K) (hθ : 0 < θ) (ps : List ((n → K) × (n → K)))
    (hp : ∀ p ∈ ps, p.1 ≠ 0 ∧ 0 < p.1 ⬝ᵥ p.2) (g w : n → K)
    (hw : C10.bfgsChain (θ • (1 : Matrix n n K)) ps *ᵥ w = -g) :
    w = -C18.twoLoop (θ⁻¹ • (1 : Matrix n n K)) ps g := by
  rw [C18.two_loop_eq_chain, C18.chainF_eq_invChain, ← mulVec_neg]
  exact eq_mulVec_of_mul_eq_one (invChain_theta θ hθ ps hp) hw

end Lbfgsb.BfgsInverse
