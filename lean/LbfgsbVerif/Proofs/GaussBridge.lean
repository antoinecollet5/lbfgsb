/-
  The Gauss–Jordan elimination of the model in matrix form, and what it gives for the kernels:
  the "exact solve" hypotheses of the Cauchy / subspace contexts (`QCtx.hmv`, `SubCtx.hmvc`, `SubCtx.hsolve`)
  follow from the computable condition "no pivot of the elimination vanishes".
-/
import LbfgsbVerif.Proofs.CauchyStep
import LbfgsbVerif.Proofs.SubspaceBridge

namespace Lbfgsb.Gauss
open Lbfgsb Matrix
variable {K : Type} [Field K] [LinearOrder K] [IsStrictOrderedRing K]

theorem sat_augment_mulVec (A : List (Vec K)) (b : Vec K) (k : Nat) (hb : b.length = k) (hA : Sq k A) (x : Nat → K) :
    Sat k x (augment A b) ↔ wmat k k A *ᵥ (fun j : Fin k => x j) = vec k b := by
  rw [sat_augment A b k hb hA x]
  constructor
  · intro h
    funext r
    exact (Finset.sum_range fun j => (A.getD r []).getD j 0 * x j).symm.trans (h r r.2)
  · intro h r hr
    exact (Finset.sum_range fun j => (A.getD r []).getD j 0 * x j).trans (congrFun h ⟨r, hr⟩)

structure SameLeft (n : Nat) (M M' : List (Vec K)) : Prop where
  wf : WF n M
  wf' : WF n M'
  eq : ∀ r, r < n → ∀ j, j < n → ent M r j = ent M' r j

theorem pivotIdx_congr {n : Nat} {M M' : List (Vec K)} (h : SameLeft n M M') (k : Nat) (hk : k < n) :
    pivotIdx M k n = pivotIdx M' k n := by
  refine foldl_argmax_congr (fun i => fabs (ent M i k)) (fun i => fabs (ent M' i k)) _ k fun j hj => ?_
  exact congrArg fabs (h.eq j ((mem_pivotCands hk).1 hj).2 k hk)

theorem swap_sameLeft {n : Nat} {M M' : List (Vec K)} (h : SameLeft n M M') (k : Nat) (hk : k < n) (r : Nat) (hr : r < n)
    (j : Nat) (hj : j < n) : ent (swapRows M k (pivotIdx M k n)) r j = ent (swapRows M' k (pivotIdx M' k n)) r j := by
  obtain ⟨hp1, hp2⟩ := pivotIdx_range M k n hk
  rw [← pivotIdx_congr h k hk, swap_ent h.wf k _ hk hp2, swap_ent h.wf' k _ hk hp2]
  exact h.eq _ (swap_lt hk hp2 hr) j hj

theorem pivotOf_congr {n : Nat} {M M' : List (Vec K)} (h : SameLeft n M M') (k : Nat) (hk : k < n) :
    pivotOf M k n = pivotOf M' k n := by
  rw [pivotOf_eq, pivotOf_eq]
  exact swap_sameLeft h k hk k hk k hk

theorem gjStep_sameLeft {n : Nat} {M M' : List (Vec K)} (h : SameLeft n M M') (k : Nat) (hk : k < n) :
    SameLeft n (gjStep M k n) (gjStep M' k n) := by
  refine ⟨gjStep_wf h.wf k hk, gjStep_wf h.wf' k hk, fun r hr j hj => ?_⟩
  rw [gjStep_ent h.wf k hk r j hr (by omega), gjStep_ent h.wf' k hk r j hr (by omega), pivotOf_congr h k hk,
    swap_sameLeft h k hk r hr j hj, swap_sameLeft h k hk k hk j hj, swap_sameLeft h k hk r hr k hk]

theorem gjPivots_congr (n : Nat) : ∀ (fuel k : Nat) (M M' : List (Vec K)), k + fuel ≤ n → SameLeft n M M' →
    gjPivots n fuel k M = gjPivots n fuel k M' := by
  intro fuel
  induction fuel with
  | zero =>
    intro k M M' _ _
    rfl
  | succ f ih =>
    intro k M M' hk h
    exact congrArg₂ List.cons (pivotOf_congr h k (by omega))
      (ih (k + 1) _ _ (by omega) (gjStep_sameLeft h k (by omega)))

theorem gjPivots_rhs (A : List (Vec K)) (b b' : Vec K) (k : Nat) (hb : b.length = k) (hb' : b'.length = k)
    (hA : A.length = k) (hrow : ∀ i, i < k → (A.getD i []).length = k) :
    gjPivots k k 0 (augment A b) = gjPivots k k 0 (augment A b') := by
  apply gjPivots_congr k k 0 _ _ (Nat.zero_add k).le
  refine ⟨augment_wf A b k hb ⟨hA, hrow⟩, augment_wf A b' k hb' ⟨hA, hrow⟩, fun r hr j hj => ?_⟩
  rw [augment_ent_left A b k hb ⟨hA, hrow⟩ r j hr hj, augment_ent_left A b' k hb' ⟨hA, hrow⟩ r j hr hj]

/-- the pivots of the elimination on `A`; the right-hand side does not enter them (`pivotsOf_rhs`) -/
def pivotsOf (A : List (Vec K)) (k : Nat) : List K := gjPivots k k 0 (augment A (List.replicate k 0))

theorem pivotsOf_rhs (A : List (Vec K)) (b : Vec K) (k : Nat) (hb : b.length = k) (hA : Sq k A) : gjPivots k k 0 (augment A b) = pivotsOf A k :=
  gjPivots_rhs A b _ k hb List.length_replicate hA.len hA.row

theorem gaussSolve_mulVec_iff (A : List (Vec K)) (b : Vec K) (k : Nat) (hb : b.length = k) (hA : Sq k A) (hp : ∀ p ∈ pivotsOf A k, p ≠ 0) (x : Nat → K) :
    wmat k k A *ᵥ (fun j : Fin k => x j) = vec k b ↔ ∀ r, r < k → x r = (gaussSolve A b).getD r 0 := by
  rw [← sat_augment_mulVec A b k hb hA x]
  exact gaussSolve_sat_iff A b k hb hA ((pivotsOf_rhs A b k hb hA).symm ▸ hp) x

theorem gaussSolve_mulVec (A : List (Vec K)) (b : Vec K) (k : Nat) (hb : b.length = k) (hA : Sq k A) (hp : ∀ p ∈ pivotsOf A k, p ≠ 0) :
    (gaussSolve A b).length = k ∧ wmat k k A *ᵥ vec k (gaussSolve A b) = vec k b :=
  ⟨gaussSolve_length A b k hb hA,
    (gaussSolve_mulVec_iff A b k hb hA hp fun j => (gaussSolve A b).getD j 0).2 fun _ _ => rfl⟩

theorem pivots_of_injective (A : List (Vec K)) (k : Nat) (hA : A.length = k)
    (hrow : ∀ i, i < k → (A.getD i []).length = k)
    (hinj : ∀ x : Fin k → K, wmat k k A *ᵥ x = 0 → x = 0) : ∀ p ∈ pivotsOf A k, p ≠ 0 := by
  unfold pivotsOf
  have hb : (List.replicate k (0 : K)).length = k := List.length_replicate
  apply gjPivots_ne_zero k k 0 _ (Nat.zero_add k).le (augment_wf A _ k hb ⟨hA, hrow⟩) (col_zero _)
  · intro r hr
    rw [augment_ent_right A _ k hb ⟨hA, hrow⟩ r hr, List.getD_replicate _ hr]
  · intro x hs j hj
    have hAx := (sat_augment_mulVec A _ k hb ⟨hA, hrow⟩ x).1 hs
    rw [show vec k (List.replicate k (0 : K)) = 0 from funext fun r => List.getD_replicate _ r.2] at hAx
    exact congrFun (hinj _ hAx) ⟨j, hj⟩

theorem pivots_of_left_inverse (A : List (Vec K)) (k : Nat) (hA : Sq k A) (B : Matrix (Fin k) (Fin k) K) (hB : B * wmat k k A = 1) :
    ∀ p ∈ pivotsOf A k, p ≠ 0 := by
  apply pivots_of_injective A k hA.len hA.row
  intro x hx
  rw [eq_mulVec_of_mul_eq_one hB hx, mulVec_zero]

/-- gives `QCtx.hmv` and `SubCtx.hmvc`: `mv v` is the solve with the stored `M⁻¹`, hence the product with its inverse `Mm` -/
theorem mv_of_pivots (i : CauchyIn K) (k : Nat) (Mm : Matrix (Fin k) (Fin k) K) (uf : i.useFactor = true)
    (hA : i.Minv.length = k) (hrow : ∀ r, r < k → (i.Minv.getD r []).length = k)
    (hp : ∀ p ∈ pivotsOf i.Minv k, p ≠ 0) (hM : Mm * wmat k k i.Minv = 1) :
    ∀ v : List K, v.length = k → (i.mv v).length = k ∧ vec k (i.mv v) = Mm *ᵥ vec k v := by
  intro v hv
  rw [mv_of_useFactor i uf]
  obtain ⟨hl, hs⟩ := gaussSolve_mulVec i.Minv v k hv ⟨hA, hrow⟩ hp
  exact ⟨hl, eq_mulVec_of_mul_eq_one hM hs⟩

theorem subN_row (i : SubIn K) (k : Nat) (hk : subK i = k) (hMl : i.Minv.length = k) (a : Nat) (ha : a < k) :
    (subN i).getD a [] = vsub (i.Minv.getD a []) (smul (1 / i.theta) ((List.range k).map fun b =>
        dot ((subWz i).map fun row => row.getD a 0) ((subWz i).map fun row => row.getD b 0))) := by
  unfold subN
  dsimp only
  rw [hk, getD_zip_map _ i.Minv _ a [] [] [] (hMl.symm ▸ ha) (by simpa using ha), getD_map_range _ k a [] ha]

theorem subN_wf (i : SubIn K) (k : Nat) (hk : subK i = k) (hM : Sq k i.Minv) : Sq k (subN i) := by
  constructor
  · unfold subN
    dsimp only
    rw [List.length_map, List.length_zip, List.length_map, List.length_range, hk, hM.len, Nat.min_self]
  · intro a ha
    rw [subN_row i k hk hM.len a ha, length_vsub_smul _ _ _ (by rw [List.length_map, List.length_range, hM.row a ha]),
      hM.row a ha]

theorem wmat_subN (i : SubIn K) (n k : Nat) (hk : subK i = k) (hW : i.W.length = n) (hm : (subMask i).length = n)
    (hMl : i.Minv.length = k) (hMrow : ∀ r, r < k → (i.Minv.getD r []).length = k) :
    wmat k k (subN i) = wmat k k i.Minv - (1 / i.theta) • ((wmat n k (subWz i))ᵀ * wmat n k (subWz i)) := by
  funext a b
  have hWzl := subWz_length i n hW hm
  -- entry `(a, b)` of the list: `M⁻¹_ab − θ⁻¹ · (column a of Ŵ)·(column b of Ŵ)`
  show ((subN i).getD a []).getD b 0 = _
  rw [subN_row i k hk hMl a a.2,
    getD_vsub_smul _ _ _ b ((hMrow a a.2).symm ▸ b.2) (by simpa only [List.length_map, List.length_range] using b.2),
    getD_map_range _ k b 0 b.2, dot_vec n _ _ (by rw [List.length_map, hWzl]) (by rw [List.length_map, hWzl]),
    vec_col n k _ hWzl a, vec_col n k _ hWzl b]
  rfl

/-- `N v = 0` is the small system for the reduced gradient `0`, so (C09 `masked_smw`) `u = −θ⁻²·ZZᵀW v` has `B u = 0` on the
free variables and `u = 0` on the others; then `u = 0` (`masked_newton_zero`), `ZZᵀW v = 0`, and `M⁻¹ v = 0` -/
theorem maskedN_injective {n k : Nat} (θ : K) (hθ : θ ≠ 0) (Wm : Matrix (Fin n) (Fin k) K)
    (Mm Minvm : Matrix (Fin k) (Fin k) K) (hM : Mm * Minvm = 1) (m : Fin n → Bool)
    (pd : ∀ a : Fin n → K, a ≠ 0 → 0 < a ⬝ᵥ (bmat θ Wm Mm *ᵥ a))
    (v : Fin k → K)
    (hv : (Minvm - (1 / θ) • ((C09.maskRows m Wm)ᵀ * C09.maskRows m Wm)) *ᵥ v = 0) : v = 0 := by
  have hm0 : C09.maskVec m (0 : Fin n → K) = 0 := funext fun r => ite_self 0
  obtain ⟨hz, hnewt⟩ := C09.masked_smw θ hθ Wm Mm Minvm hM m 0 v (by rw [hv, hm0, mulVec_zero])
  have hu := Units.masked_newton_zero (bmat θ Wm Mm) pd m _ hz fun r hr => (hnewt r hr).trans neg_zero
  rw [hm0, zero_add] at hu
  have ha : C09.maskRows m Wm *ᵥ v = 0 :=
    ((smul_eq_zero.1 ((smul_eq_zero.1 hu).resolve_left (neg_ne_zero.2 (one_div_ne_zero hθ)))).resolve_left
      (one_div_ne_zero hθ))
  rw [sub_mulVec, smul_mulVec, ← mulVec_mulVec, ha, mulVec_zero, smul_zero, sub_zero] at hv
  rw [eq_mulVec_of_mul_eq_one hM hv, mulVec_zero]

/-- `SubCtx` with the two exact-solve clauses replaced by the computable condition that no pivot of the elimination on
`N = M⁻¹ − (1/θ) WᵀZZᵀW` vanishes (those of the elimination on `M⁻¹` cannot: it has the inverse `Mm`) -/
structure SubCtxP (i : SubIn K) (n k : Nat) (Mm : Matrix (Fin k) (Fin k) K) : Prop where
  hx : i.x.length = n
  hg : i.g.length = n
  hxc : i.xc.length = n
  hW : i.W.length = n
  hrow : ∀ r, r < n → (i.W.getD r []).length = k
  hcl : i.c.length = k
  box : InBoxF i.lb i.ub i.xc
  hθ : i.theta ≠ 0
  uf : i.useFactor = true
  hk : subK i = k
  hMl : i.Minv.length = k
  hMrow : ∀ r, r < k → (i.Minv.getD r []).length = k
  hM : Mm * wmat k k i.Minv = 1
  hc : vec k i.c = (wmat n k i.W)ᵀ *ᵥ (vec n i.xc - vec n i.x)
  pivN : ∀ p ∈ pivotsOf (subN i) k, p ≠ 0

theorem SubCtxP.sizes {i : SubIn K} {n k : Nat} {Mm : Matrix (Fin k) (Fin k) K} (h : SubCtxP i n k Mm) : SubSizes i n k :=
  ⟨h.hx, h.hg, h.hxc, h.hW, h.hrow, h.box⟩

theorem SubCtxP.toSubCtx {i : SubIn K} {n k : Nat} {Mm : Matrix (Fin k) (Fin k) K} (h : SubCtxP i n k Mm) :
    SubCtx i n k Mm (wmat k k i.Minv) := by
  have s := h.sizes
  have hmv := mv_of_pivots i.toCauchyIn k Mm h.uf h.hMl h.hMrow
    (pivots_of_left_inverse i.Minv k ⟨h.hMl, h.hMrow⟩ Mm h.hM) h.hM
  have hV0l : (subV0 i).length = k := by
    unfold subV0
    rw [wtv_length, h.hk]
  have hN := subN_wf i k h.hk ⟨h.hMl, h.hMrow⟩
  obtain ⟨hvl, hvs⟩ := gaussSolve_mulVec (subN i) (subV0 i) k hV0l hN h.pivN
  refine ⟨h.hx, h.hg, h.hxc, h.hW, h.hrow, h.hcl, h.box, h.hθ, h.uf, hmv i.c h.hcl, h.hM, h.hc, ?_⟩
  rw [subV_of_useFactor i h.uf]
  refine ⟨hvl, ?_⟩
  rw [← s.wmat_wz, ← wmat_subN i n k h.hk h.hW s.mask_length h.hMl h.hMrow, hvs, subV0, h.hk,
    vec_wtv n k (subWz i) (subRHat i) s.wz_length s.rHat_length, s.vec_rHat]

/-- with `B` positive definite no pivot on `N` vanishes (`maskedN_injective`): the pivot condition of `SubCtxP` is not a hypothesis then -/
theorem SubCtxP.of_pd {i : SubIn K} {n k : Nat} {Mm : Matrix (Fin k) (Fin k) K}
    (hx : i.x.length = n) (hg : i.g.length = n) (hxc : i.xc.length = n) (hW : i.W.length = n)
    (hrow : ∀ r, r < n → (i.W.getD r []).length = k) (hcl : i.c.length = k) (box : InBoxF i.lb i.ub i.xc)
    (hθ : i.theta ≠ 0) (uf : i.useFactor = true) (hk : subK i = k) (hMl : i.Minv.length = k)
    (hMrow : ∀ r, r < k → (i.Minv.getD r []).length = k) (hM : Mm * wmat k k i.Minv = 1)
    (hc : vec k i.c = (wmat n k i.W)ᵀ *ᵥ (vec n i.xc - vec n i.x))
    (pd : ∀ a : Fin n → K, a ≠ 0 → 0 < a ⬝ᵥ (bmat i.theta (wmat n k i.W) Mm *ᵥ a)) : SubCtxP i n k Mm := by
  have s : SubSizes i n k := ⟨hx, hg, hxc, hW, hrow, box⟩
  have hN := subN_wf i k hk ⟨hMl, hMrow⟩
  refine ⟨hx, hg, hxc, hW, hrow, hcl, box, hθ, uf, hk, hMl, hMrow, hM, hc, ?_⟩
  apply pivots_of_injective (subN i) k hN.len hN.row
  intro v hv
  rw [wmat_subN i n k hk hW s.mask_length hMl hMrow, s.wmat_wz] at hv
  exact maskedN_injective i.theta hθ (wmat n k i.W) Mm (wmat k k i.Minv) hM (maskF n (subMask i)) pd v hv

end Lbfgsb.Gauss
