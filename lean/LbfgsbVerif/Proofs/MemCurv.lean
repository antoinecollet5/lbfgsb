/-
  Run-level memory invariant that survives objective redefinitions: whatever the update function
  does to the stored gradients (as long as it returns as many as it was given), the history the
  driver keeps has consecutive pairs passing the curvature test, is never empty and never longer
  than `maxcor + 1` — for the final state and for every state handed to the callback (level U).
-/
import LbfgsbVerif.Proofs.C18

namespace Lbfgsb
variable {α ε δ : Type}
variable [LinearOrder α] [Add α] [Sub α] [Mul α] [Div α] [Neg α] [OfNat α 0] [OfNat α 1] [FloatLike α]

/-- what the run-level theorem says of one reported state: its pairs are the differences of a well-formed history -/
def PairsFrom (c : Cfg α) (r : Result α) : Prop :=
  ∃ X G : List (Vec α), r.sk = diffs X ∧ r.yk = diffs G ∧ X.length = G.length ∧ X ≠ [] ∧
    C13.PairsOk c.epsSY X G ∧ X.length ≤ c.maxcor + 1

def UpdLen (u : User α ε) : Prop := ∀ (i : UpdIn α) r, u.update i = .ok r → r.G.length = i.G.length

/-- the invariant, in the filter's orientation (`PairsOk`: older against newer; `CurvChain` of Proofs/C18.lean is the other one) -/
structure MemC (c : Cfg α) (s : St α) : Prop where
  len : s.X.length = s.G.length
  pos : s.X ≠ []
  pairs : C13.PairsOk c.epsSY s.X s.G
  bound : s.X.length ≤ c.maxcor + 1
  cbs : ∀ cb ∈ s.cbStates, PairsFrom c cb

theorem MemC.result {c : Cfg α} {s : St α} (h : MemC c s) : PairsFrom c s.result :=
  ⟨s.X, s.G, rfl, rfl, h.len, h.pos, h.pairs, h.bound⟩

omit [Div α] [Neg α] [OfNat α 1] [FloatLike α] in
theorem filter_spec (eps : α) (X G : List (Vec α)) (hne : X ≠ []) (hl : X.length = G.length) :
    C13.PairsOk eps (filterWolfe X G eps).1 (filterWolfe X G eps).2 ∧
    (filterWolfe X G eps).1.length = (filterWolfe X G eps).2.length ∧
    (filterWolfe X G eps).1 ≠ [] ∧ (filterWolfe X G eps).1.length ≤ X.length := by
  rcases C13.filterWolfe_cases eps X G with ⟨h0, -⟩ | ⟨X0, xl, G0, gl, rfl, rfl, h⟩
  · exact absurd h0 (not_or.2 ⟨hne, ne_nil_of_length_eq hl hne⟩)
  · rw [h]
    obtain ⟨h1, h2, h3, -, -, h6⟩ := C13.walk_spec eps X0 G0 xl gl
    exact ⟨h1, h2, h3, h6.length_le⟩

theorem MemC.congr {c : Cfg α} {s t : St α} (h : MemC c s) (hX : t.X = s.X) (hG : t.G = s.G)
    (hcb : t.cbStates = s.cbStates) : MemC c t :=
  ⟨hX ▸ hG ▸ h.len, hX ▸ h.pos, hX ▸ hG ▸ h.pairs, hX ▸ h.bound, hcb ▸ h.cbs⟩

theorem memStep_memC (c : Cfg α)
    (hsym : ∀ x g x' g' : Vec α, curvOk x g x' g' c.epsSY = curvOk x' g' x g c.epsSY)
    (s : St α) (hi : MemC c s) : MemC c (memStep c s) := by
  have hs := updateMats_hist c.epsSY s.X s.G s.x s.g c.maxcor s.mats hi.len hi.pos
    ((pairsOk_iff_curvChain _ hsym _ _).1 hi.pairs)
  exact ⟨hs.len, hs.pos, (pairsOk_iff_curvChain _ hsym _ _).2 hs.chain, hs.bound hi.bound, hi.cbs⟩

theorem iterBody_memC (u : User α ε) (o : Oracles α δ) (hu : UpdLen u) (c : Cfg α)
    (hsym : ∀ x g x' g' : Vec α, curvOk x g x' g' c.epsSY = curvOk x' g' x g c.epsSY)
    (s s' : St α) (flow : Flow) (hi : MemC c s) (h : iterBody u o c s = .ok (s', flow)) : MemC c s' := by
  refine iterBody_rule h ?ls ?move ?upd ?flags ?reset ?mem ?cb ?nit
  case ls => exact fun _ _ _ _ => hi.congr rfl rfl rfl
  case move => exact fun _ _ _ _ _ _ _ _ it => it.congr rfl rfl rfl
  case upd =>
    intro t _ r _ hr it
    obtain ⟨f1, f2, f3, f4⟩ := filter_spec c.epsSY t.X r.G it.pos (it.len.trans (hu _ r hr).symm)
    exact ⟨f2, f3, f1, Nat.le_trans f4 it.bound, it.cbs⟩
  case flags => exact fun _ _ _ _ it => it.congr rfl rfl rfl
  case reset => exact fun _ it => ⟨rfl, List.cons_ne_nil _ _, trivial, Nat.succ_le_succ (Nat.zero_le _), it.cbs⟩
  case mem => exact memStep_memC c hsym
  case cb =>
    exact fun _ _ _ _ _ it => ⟨it.len, it.pos, it.pairs, it.bound,
      List.forall_mem_append.2 ⟨it.cbs, List.forall_mem_singleton.2 it.result⟩⟩
  case nit => exact fun _ it => it.congr rfl rfl rfl

/-- **every result and callback state of a fresh run — with or without objective redefinitions —
carries pairs with the curvature property, at most `maxcor` of them** -/
theorem minimize_memC (u : User α ε) (o : Oracles α δ) (hu : UpdLen u) (c : Cfg α)
    (hsym : ∀ x g x' g' : Vec α, curvOk x g x' g' c.epsSY = curvOk x' g' x g c.epsSY)
    (hck : c.checkpoint = none) (r : Result α) (s : St α) (h : minimize u o c = .ok (r, s)) :
    PairsFrom c r ∧ ∀ cb ∈ s.cbStates, PairsFrom c cb := by
  have start : ∀ i s0, initEval u c = .ok i → prepare u c i = .ok s0 → MemC c s0 := by
    intro i s0 hi h0
    obtain ⟨hX0, hG0⟩ := initEval_fresh u c i hck hi
    obtain ⟨hXs, hGs, hcbs⟩ := prepare_fresh_any u c i s0 hX0 hG0 h0
    constructor
    · rw [hXs, hGs]
      rfl
    · rw [hXs]
      exact List.cons_ne_nil _ _
    · rw [hXs, hGs]
      trivial
    · rw [hXs]
      exact Nat.succ_le_succ (Nat.zero_le _)
    · rw [hcbs]
      exact fun _ h => absurd h List.not_mem_nil
  rcases minimize_inv (I := MemC c) start
    (fun s s' flow hi _ hb => iterBody_memC u o hu c hsym s s' flow hi hb) h with
    ⟨i, -, -, he⟩ | ⟨s1, t, su, w, i1, rfl, rfl⟩
  · rcases earlyResult_cases c i with ⟨ck, hck', -⟩ | ⟨-, t, e, rfl⟩
    · simp [hck] at hck'
    · obtain ⟨rfl, rfl⟩ := Prod.mk.inj (he.trans e)
      exact ⟨⟨[i.x], [i.x.map fun _ => 0], rfl, rfl, rfl, List.cons_ne_nil _ _, trivial,
        Nat.succ_le_succ (Nat.zero_le _)⟩, fun _ h => absurd h List.not_mem_nil⟩
  · exact ⟨(i1.congr rfl rfl rfl : MemC c _).result, i1.cbs⟩

end Lbfgsb
