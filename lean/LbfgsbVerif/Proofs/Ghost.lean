/-
  The logs of the model (`SF.log`: every request to a user callable; `St.cbStates`: the states
  handed to the callback; `St.olog`: the kernel requests) are *ghost*: nothing the driver computes
  depends on them: wrappers equal up to the log are an instance of `WRel` (Proofs/Sim.lean), and
  with a callback that always answers "go on", switching it on or off gives such a pair of runs.
-/
import LbfgsbVerif.Proofs.Sim

namespace Lbfgsb
variable {α ε δ : Type}

def SF.er (s : SF α) : SF α := { s with log := [] }

theorem exists_log {a b : SF α} (h : a.er = b.er) : ∃ l, b = { a with log := l } :=
  -- `b` is `b.er` with its log put back (structure eta), and `b.er = a.er`
  ⟨b.log, show b = { a.er with log := b.log } from h ▸ rfl⟩

def erR {β : Type} (r : Except ε (SF α × β)) : Except ε (SF α × β) := r.map fun p => (p.1.er, p.2)

section gh
variable {K : Prop}

/-- equal up to the log and, unless `K`, the cached gradient (`K := False`: a stale gradient,
Proofs/RestartSim.lean) -/
def Gh (K : Prop) (a b : SF α) : Prop := ∃ l g, b = { a with log := l, g := g } ∧ (K → g = a.g)

theorem gh_iff_er {a b : SF α} : Gh True a b ↔ a.er = b.er := by
  constructor
  · rintro ⟨l, g, rfl, hg⟩
    rw [hg trivial]
    rfl
  · exact fun h => (exists_log h).elim fun l e => ⟨l, a.g, e, fun _ => rfl⟩

theorem callF_gh (u : SFUser α ε) {a b : SF α} (h : Gh K a b) (p : Vec α) :
    RelE (fun r q => Gh K r.1 q.1 ∧ r.2 = q.2) (a.callF u p) (b.callF u p) := by
  obtain ⟨l, g, rfl, hg⟩ := h
  unfold SF.callF
  refine RelE.bind (R := Eq) (RelE.refl _) ?_
  rintro v _ rfl
  exact RelE.pure ⟨⟨_, g, rfl, hg⟩, rfl⟩

theorem callFs_gh (u : SFUser α ε) (pts : List (Vec α)) :
    ∀ {a b : SF α}, Gh K a b →
      RelE (fun r q => Gh K r.1 q.1 ∧ r.2 = q.2) (SF.callFs u a pts) (SF.callFs u b pts) := by
  induction pts with
  | nil => exact fun h => RelE.pure ⟨h, rfl⟩
  | cons p ps ih =>
    intro a b h
    simp only [SF.callFs]
    refine RelE.bind (callF_gh u h p) ?_
    rintro ⟨r1, v⟩ ⟨q1, _⟩ ⟨h1, rfl⟩
    refine RelE.bind (ih h1) ?_
    rintro ⟨r2, vs⟩ ⟨q2, _⟩ ⟨h2, rfl⟩
    exact RelE.pure ⟨h2, rfl⟩

theorem updFun_gh (u : SFUser α ε) {a b : SF α} (h : Gh K a b) : RelE (Gh K) (a.updFun u)
    (b.updFun u) := by
  obtain ⟨l, g, rfl, hg⟩ := h
  unfold SF.updFun
  dsimp only
  refine rel_ite (fun _ => RelE.pure ⟨l, g, rfl, hg⟩) fun _ =>
    RelE.bind (callF_gh u ⟨l, g, rfl, hg⟩ _) ?_
  rintro ⟨p1, p2⟩ ⟨q1, q2⟩ ⟨⟨l', g', rfl, hg'⟩, h2⟩
  dsimp only at h2
  subst h2
  exact RelE.pure ⟨l', g', rfl, hg'⟩

theorem updFun_er (u : SFUser α ε) {a b : SF α} (h : a.er = b.er) :
    RelE (fun p q => p.er = q.er) (a.updFun u) (b.updFun u) :=
  (updFun_gh u (gh_iff_er.2 h)).mono fun _ _ => gh_iff_er.1

variable [LT α] [DecidableLT α]

/-- a gradient request overwrites the cached gradient unless it is up to date -/
theorem updGrad_gh [OfNat α 0] (u : SFUser α ε) {a b : SF α} (h : Gh K a b)
    (hK : K ∨ a.gUpd = false) :
    RelE (Gh True) (a.updGrad u) (b.updGrad u) := by
  obtain ⟨l, g, rfl, hg⟩ := h
  unfold SF.updGrad
  dsimp only
  refine rel_ite (fun hgt => ?_) fun _ => ?_
  · rcases hK with hK | hK
    · exact RelE.pure ⟨l, g, rfl, fun _ => hg hK⟩
    · exact absurd (hK.symm.trans hgt) Bool.false_ne_true
  cases hm : a.mode with
  | callable =>
    refine RelE.bind (R := Eq) (RelE.refl _) ?_
    rintro gv _ rfl
    exact RelE.pure ⟨_, gv, rfl, fun _ => rfl⟩
  | fd =>
    refine RelE.bind (updFun_gh u (K := K) ⟨l, g, by simp only [hm], hg⟩) ?_
    rintro p q ⟨l', g', rfl, hg'⟩
    refine RelE.bind
      (callFs_gh u _ (K := K) (a := { p with ngev := p.ngev + 1 }) ⟨l', g', rfl, hg'⟩) ?_
    rintro ⟨r1, vs⟩ ⟨q1, _⟩ ⟨⟨l'', g'', rfl, -⟩, rfl⟩
    exact RelE.pure ⟨_, _, rfl, fun _ => rfl⟩

theorem updGrad_er [OfNat α 0] (u : SFUser α ε) {a b : SF α} (h : a.er = b.er) :
    RelE (fun p q => p.er = q.er) (a.updGrad u) (b.updGrad u) :=
  (updGrad_gh u (gh_iff_er.2 h) (Or.inl trivial)).mono fun _ _ => gh_iff_er.1

theorem updateX_er {a b : SF α} (h : a.er = b.er) (x : Vec α) : (a.updateX x).er =
    (b.updateX x).er := by
  obtain ⟨l, rfl⟩ := exists_log h
  unfold SF.updateX
  dsimp only
  split
  · rfl
  · rfl

variable [Mul α] [OfNat α 0]

theorem funAndGrad_er (u : SFUser α ε) {a b : SF α} (x : Vec α) (h : a.er = b.er) :
    RelE (fun p q => p.1.er = q.1.er ∧ p.2 = q.2) (a.funAndGrad u x) (b.funAndGrad u x) := by
  unfold SF.funAndGrad
  refine RelE.bind (updFun_er u (updateX_er h x)) ?_
  intro p q hpq
  refine RelE.bind (updGrad_er u hpq) ?_
  intro p' q' h'
  obtain ⟨l, rfl⟩ := exists_log h'
  exact RelE.pure ⟨h', rfl⟩

theorem funv_congr (u : SFUser α ε) (a b : SF α) (x : Vec α) (h : a.er = b.er) :
    erR (a.funv u x) = erR (b.funv u x) := by
  apply (RelE.iff_map_eq _).1
  unfold SF.funv
  refine RelE.bind (updFun_er u (updateX_er h x)) ?_
  intro p q hpq
  obtain ⟨l, rfl⟩ := exists_log hpq
  exact RelE.pure rfl

theorem gradv_congr (u : SFUser α ε) (a b : SF α) (x : Vec α) (h : a.er = b.er) :
    erR (a.gradv u x) = erR (b.gradv u x) := by
  apply (RelE.iff_map_eq _).1
  unfold SF.gradv
  refine RelE.bind (updGrad_er u (updateX_er h x)) ?_
  intro p q hpq
  obtain ⟨l, rfl⟩ := exists_log hpq
  exact RelE.pure rfl

end gh

def St.er (s : St α) : St α := { s with cbStates := [], sf := s.sf.er, olog := [] }

theorem St.exists_ghost {a b : St α} (h : a.er = b.er) :
    ∃ l cbs ol, b = { a with cbStates := cbs, sf := { a.sf with log := l }, olog := ol } :=
  ⟨b.sf.log, b.cbStates, b.olog,
    show b = { a.er with cbStates := b.cbStates, sf :=
      { a.er.sf with log := b.sf.log }, olog := b.olog } from h ▸ rfl⟩

section driver
variable [Add α] [Sub α] [Mul α] [Div α] [Neg α] [LT α] [DecidableLT α] [OfNat α 0] [OfNat α 1]
  [FloatLike α]

abbrev Cfg.cb (c : Cfg α) (b : Bool) : Cfg α := { c with hasCallback := b }

theorem loopCfg_cb (c : Cfg α) (b b' : Bool) : LoopCfg (c.cb b) (c.cb b') := rfl

theorem er_wrel (uf : SFUser α ε) : WRel uf uf (fun a b : SF α => a.er = b.er) where
  fg x h := funAndGrad_er uf x h
  -- `a.er.nfev` is `a.nfev` by structure eta
  nfev h := (congrArg SF.nfev h :)
  ngev h := (congrArg SF.ngev h :)
  log _ h := h

theorem StRel.of_er {s t : St α} (h : s.er = t.er) : StRel (fun p q : SF α => p.er = q.er) s t := by
  obtain ⟨lg, cbs, ol, rfl⟩ := St.exists_ghost h
  exact ⟨_, cbs, ol, rfl, rfl⟩

theorem StRel.er {s t : St α} (h : StRel (fun p q : SF α => p.er = q.er) s t) : s.er = t.er := by
  obtain ⟨sfb, cbs, ol, rfl, hw⟩ := h
  simp only [St.er, hw]

theorem doCallback_false (u : User α ε) (hcb : ∀ r, u.callback r = .ok false) (c : Cfg α)
    (s : St α) :
    ∃ l cbs, doCallback u c s = .ok { s with sf := { s.sf with log := l }, cbStates := cbs } := by
  unfold doCallback
  by_cases h : c.hasCallback ∧ !s.success
  · refine ⟨s.sf.log ++ [Call.mk .callback s.x], s.cbStates ++ [{ s.result with nit := s.nit + 1 }],
    ?_⟩
    rw [if_pos h]
    dsimp only
    rw [hcb]
    rfl
  · exact ⟨s.sf.log, s.cbStates, (if_neg h).trans rfl⟩

theorem StRel.target_er {a b : St α} (h : StRel (fun p q : SF α => p.er = q.er) a b) (f : α) :
    targetReached (f / a.sf.scale) a.ftarget = targetReached (f / b.sf.scale) a.ftarget := by
  obtain ⟨sfb, cbs, ol, rfl, hw⟩ := h
  have hs : a.sf.scale = sfb.scale := (congrArg SF.scale hw :)
  show _ = targetReached (f / sfb.scale) a.ftarget
  rw [hs]

theorem ghost_hooks (u : User α ε) (hcb : ∀ r, u.callback r = .ok false) {c c' : Cfg α}
    (hc : LoopCfg c c')
    (hU : c'.hasUpdate = c.hasUpdate) :
    Hooks u u c c' (fun p q : SF α => p.er = q.er) (fun _ => True) where
  wrel := er_wrel _
  cfg := hc
  frame := fun _ _ _ _ _ => trivial
  fail _ := trivial
  afterEval f0 h _ := afterEval_same (er_wrel _) hc (fun _ _ _ _ _ => trivial) hU rfl
    (fun _ _ => trivial) f0 h trivial h.target_er
  accept h _ := by
    obtain ⟨sfb, cbs, ol, e, hw⟩ := memStep_same hc hU h
    obtain ⟨l1, cb1, e1⟩ := doCallback_false u hcb c (memStep c _)
    obtain ⟨l2, cb2, e2⟩ := doCallback_false u hcb c' (memStep c' _)
    rw [e1, e2, e]
    exact ⟨⟨_, _, _, rfl, hw⟩, trivial⟩

/-- the whole run: with a callback that always answers "go on", switching the callback on or off
does not change the result -/
theorem minimize_cb (u : User α ε) (o : Oracles α δ) (hcb : ∀ r, u.callback r = .ok false) (c : Cfg α)
    (b b' : Bool) :
    (minimize u o (c.cb b)).map (·.1) = (minimize u o (c.cb b')).map (·.1) :=
  (RelE.iff_map_eq (fun p : Result α × St α => p.1)).1 <|
    minimize_sim (ghost_hooks u hcb (loopCfg_cb c b b') rfl) (R := Eq) (RelE.refl _)
      (fun _ _ e => e ▸ ⟨rfl, fun _ => rfl⟩)
      fun i _ e => e ▸ (RelE.refl (prepare u (c.cb b) i)).mono fun _ _ h =>
        ⟨StRel.of_er (h ▸ rfl), trivial⟩

end driver
end Lbfgsb
