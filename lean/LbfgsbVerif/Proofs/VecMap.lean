/-
  Vectors under a change of variables. The free mask under a strictly monotone map, and the step lengths `alphaStar`,
  `maxAllowedStep` under a pair of maps that keeps the step ratios (`RatioInv`); the translation `(· + c)` and the rescaling `(b * ·)`,
  `b > 0`, are the two instances, and the last section holds what `vsub`, `clip`, `InBoxF`, `maxAbs` do under these two.
-/
import LbfgsbVerif.Proofs.C11
import LbfgsbVerif.Model.Subspace

namespace Lbfgsb

section mono
variable {α : Type} [LinearOrder α] {φ : α → α}

theorem freeMask_map (hφ : StrictMono φ) : ∀ xc lb ub : Vec α, freeMask (xc.map φ) (lb.map φ) (ub.map φ) = freeMask xc lb ub
  | [], _, _ => rfl
  | _ :: _, [], _ => rfl
  | _ :: _, _ :: _, [] => rfl
  | x :: xs, l :: ls, u :: us => by simp only [List.map_cons, freeMask, isFree, feq_map hφ, freeMask_map hφ xs ls us]

end mono

section field
variable {K : Type} [Field K] [LinearOrder K] [IsStrictOrderedRing K]
attribute [local instance] fieldFloatLike

/-- all that `alphaStar` and `maxAllowedStep` read of `x`, `d`, `lb`, `ub`: the test `d = 0` and the step to the bound -/
def RatioInv (φ ψ : K → K) : Prop :=
  ∀ x d l u : K, feq (ψ d) 0 = feq d 0 ∧
    (if 0 < ψ d then (φ u - φ x) / ψ d else (φ l - φ x) / ψ d) = if 0 < d then (u - x) / d else (l - x) / d

-- The two instances are strictly monotone. Stated here once: behind the Mathlib names stands a search for `AddRightStrictMono K`,
-- `PosMulStrictMono K` that is slow from `[Field K] [LinearOrder K] [IsStrictOrderedRing K]`.
theorem strictMono_shift (c : K) : StrictMono (· + c) := add_left_strictMono

theorem strictMono_scale {b : K} (hb : 0 < b) : StrictMono (b * ·) := strictMono_mul_left_of_pos hb

theorem ratioInv_shift (c : K) : RatioInv (· + c) id := fun x d l u => by
  simp only [id, add_sub_add_right_eq_sub, and_self]

theorem ratioInv_scale {b : K} (hb : 0 < b) : RatioInv (b * ·) (b * ·) := fun x d l u => by
  have hz : feq (b * d) 0 = feq d 0 := by simpa only [mul_zero] using feq_map (strictMono_scale hb) d 0
  simp only [hz, mul_pos_iff_of_pos_left hb, ← mul_sub, mul_div_mul_left _ _ hb.ne', and_self]

theorem maxAllowedStep_cand_map {φ ψ : K → K} (h : RatioInv φ ψ) :
    ∀ x d lb ub : Vec K, maxAllowedStep.cand (x.map φ) (d.map ψ) (lb.map φ) (ub.map φ) = maxAllowedStep.cand x d lb ub
  | [], _, _, _ => rfl
  | _ :: _, [], _, _ => rfl
  | _ :: _, _ :: _, [], _ => rfl
  | _ :: _, _ :: _, _ :: _, [] => rfl
  | x :: xs, d :: ds, l :: ls, u :: us => by
    simp only [List.map_cons, maxAllowedStep.cand, (h x d l u).1, (h x d l u).2, maxAllowedStep_cand_map h xs ds ls us]

theorem alphaStar_cand_map {φ ψ : K → K} (h : RatioInv φ ψ) :
    ∀ (xc d lb ub : Vec K) (mask : List Bool),
      alphaStar.cand (xc.map φ) (d.map ψ) (lb.map φ) (ub.map φ) mask = alphaStar.cand xc d lb ub mask
  | [], _, _, _, _ => rfl
  | _ :: _, [], _, _, _ => rfl
  | _ :: _, _ :: _, [], _, _ => rfl
  | _ :: _, _ :: _, _ :: _, [], _ => rfl
  | _ :: _, _ :: _, _ :: _, _ :: _, [] => rfl
  | x :: xs, d :: ds, l :: ls, u :: us, m :: ms => by
    simp only [List.map_cons, alphaStar.cand, (h x d l u).1, (h x d l u).2, alphaStar_cand_map h xs ds ls us ms]

theorem maxAllowedStep_map {φ ψ : K → K} (h : RatioInv φ ψ) (x d lb ub : Vec K) (maxStep : K) (nit : Nat) :
    maxAllowedStep (x.map φ) (d.map ψ) (lb.map φ) (ub.map φ) maxStep nit = maxAllowedStep x d lb ub maxStep nit := by
  unfold maxAllowedStep
  rw [maxAllowedStep_cand_map h]

theorem alphaStar_map {φ ψ : K → K} (h : RatioInv φ ψ) (xc d lb ub : Vec K) (mask : List Bool) :
    alphaStar (xc.map φ) (d.map ψ) (lb.map φ) (ub.map φ) mask = alphaStar xc d lb ub mask := by
  unfold alphaStar
  rw [alphaStar_cand_map h]

end field

/-! the two instances, for the operations of `projgr` and of the projected path -/
section instances
variable {K : Type} [Field K] [LinearOrder K] [IsStrictOrderedRing K]
attribute [local instance] fieldFloatLike

namespace C08

theorem vsub_shift_left (c : K) (x v : Vec K) : vsub (x.map (· + c)) v = (vsub x v).map (· + c) :=
  vzip_map_left (fun a b => add_sub_right_comm a c b) x v

theorem clip_shift (c : K) (p lb ub : Vec K) :
    clip (p.map (· + c)) (lb.map (· + c)) (ub.map (· + c)) = (clip p lb ub).map (· + c) :=
  clip_map (strictMono_shift c) p lb ub

end C08

namespace C09

theorem vsub_shift_both (c : K) (a b : Vec K) : vsub (a.map (· + c)) (b.map (· + c)) = vsub a b :=
  (vzip_map (χ := id) (fun a b => add_sub_add_right_eq_sub a b c) a b).trans (List.map_id _)

end C09

namespace Units

theorem clip_smul (b : K) (hb : 0 < b) (p lb ub : Vec K) :
    clip (smul b p) (smul b lb) (smul b ub) = smul b (clip p lb ub) :=
  clip_map (strictMono_scale hb) p lb ub

theorem inBoxF_smul (b : K) (hb : 0 < b) (lb ub p : Vec K) (h : InBoxF lb ub p) :
    InBoxF (smul b lb) (smul b ub) (smul b p) :=
  inBoxF_map (strictMono_scale hb) lb ub p h

end Units

theorem maxAbs_smul {b : K} (hb : 0 < b) (v : Vec K) : maxAbs (smul b v) = b * maxAbs v := by
  unfold maxAbs smul
  rw [List.foldl_map]
  nth_rw 1 [← mul_zero b]
  refine List.foldl_hom (b * ·) fun acc a => ?_
  rw [fabs_eq, fabs_eq, abs_mul, abs_of_pos hb]
  exact fmax_map (strictMono_scale hb) acc |a|

end instances

end Lbfgsb
