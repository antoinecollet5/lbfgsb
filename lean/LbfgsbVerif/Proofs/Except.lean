/-
  `Except` as the model uses it: what a successful or failed return of `>>=` and `pure` means,
  the error side as a predicate that passes through `pure`, `>>=` and `if` (the model has no
  handler, so a function fails only where a callee fails), and `RelE`, the relation between the
  results of two runs, which passes through them in the same way. For the concrete instances at the
  end of the `Props` files: `exists_ok_bind`, `exists_ok_of_decide`, `exists_ok₂_of_decide` turn one
  kernel evaluation of a closed run into the `∃ r s, run = .ok (r, s) ∧ …` those instances state.
-/

namespace Lbfgsb
variable {ε β γ : Type}

theorem bind_ok {x : Except ε β} {f : β → Except ε γ} {b : γ} :
    x >>= f = .ok b ↔ ∃ a, x = .ok a ∧ f a = .ok b := by
  cases x <;> simp [bind, Except.bind]

theorem bind_error {x : Except ε β} {f : β → Except ε γ} {e : ε} :
    x >>= f = .error e ↔ x = .error e ∨ ∃ a, x = .ok a ∧ f a = .error e := by
  cases x <;> simp [bind, Except.bind]

theorem pure_ok {a b : β} : (pure a : Except ε β) = .ok b ↔ a = b := by
  simp [pure, Except.pure]

theorem ite_ok {c : Prop} [Decidable c] {x y : Except ε β} {b : β} :
    (if c then x else y) = .ok b ↔ (c ∧ x = .ok b) ∨ (¬ c ∧ y = .ok b) := by
  split <;> simp [*]

/-- both steps of a concrete `x >>= f` succeed: `toBool` of the whole is closed, for the kernel to evaluate -/
theorem exists_ok_bind {α : Type} {x : Except ε α} {f : α → Except ε β} (h : (x >>= f).toBool = true) :
    ∃ a b, x = .ok a ∧ f a = .ok b :=
  match hb : x >>= f, h with
  | .ok b, _ => (bind_ok.1 hb).imp fun _ ha => ⟨b, ha⟩

/-- a concrete run returns a pair with a decidable property: the hypothesis is closed, for the
kernel to evaluate (the run once, then the property). It is written with `Option.any` and not with
`match`, since the kernel unfolds a matcher before it compares arguments, and would run `x` again. -/
theorem exists_ok_of_decide {α : Type} {x : Except ε (α × β)} {p : α → β → Prop}
    [∀ a b, Decidable (p a b)] (h : (x.toOption.any fun r => decide (p r.1 r.2)) = true) :
    ∃ a b, x = .ok (a, b) ∧ p a b :=
  match x, h with
  | .ok (a, b), h => ⟨a, b, rfl, of_decide_eq_true h⟩

theorem exists_ok₂_of_decide {α α' β' : Type} {x : Except ε (α × β)} {y : Except ε (α' × β')}
    {p : α → β → α' → β' → Prop} [∀ a b a' b', Decidable (p a b a' b')]
    (h : (x.toOption.any fun r => y.toOption.any fun r' => decide (p r.1 r.2 r'.1 r'.2)) = true) :
    ∃ a b a' b', x = .ok (a, b) ∧ y = .ok (a', b') ∧ p a b a' b' :=
  match x, y, h with
  | .ok (a, b), .ok (a', b'), h => ⟨a, b, a', b', rfl, rfl, of_decide_eq_true h⟩

variable {P : ε → Prop}

def FailsWith (P : ε → Prop) (x : Except ε β) : Prop := ∀ e, x = .error e → P e

theorem FailsWith.pure (a : β) : FailsWith P (pure a : Except ε β) :=
  fun _ h => nomatch h

theorem FailsWith.bind {x : Except ε β} {f : β → Except ε γ} (hx : FailsWith P x)
    (hf : ∀ a, FailsWith P (f a)) : FailsWith P (x >>= f) := by
  intro e h
  rcases bind_error.1 h with h | ⟨a, -, h⟩
  · exact hx e h
  · exact hf a e h

theorem FailsWith.ite {c : Prop} [Decidable c] {x y : Except ε β} (hx : FailsWith P x)
    (hy : FailsWith P y) : FailsWith P (if c then x else y) := by
  split
  · exact hx
  · exact hy

def RelE {T U : Type} (R : T → U → Prop) : Except ε T → Except ε U → Prop
  | .error e, .error e' => e = e'
  | .ok a, .ok b => R a b
  | _, _ => False

theorem RelE.bind {T U T' U' : Type} {R : T → U → Prop} {Q : T' → U' → Prop}
    {ra : Except ε T} {rb : Except ε U} {ka : T → Except ε T'} {kb : U → Except ε U'}
    (h : RelE R ra rb) (hk : ∀ a b, R a b → RelE Q (ka a) (kb b)) : RelE Q (ra >>= ka) (rb >>= kb) := by
  match ra, rb, h with
  | .error _, .error _, h => exact h
  | .ok a, .ok b, h => exact hk a b h
  | .error _, .ok _, h => exact h.elim
  | .ok _, .error _, h => exact h.elim

theorem RelE.pure {T U : Type} {R : T → U → Prop} {a : T} {b : U} (h : R a b) :
    RelE (ε := ε) R (Pure.pure a) (Pure.pure b) := h

theorem RelE.mono {T U : Type} {R Q : T → U → Prop} {ra : Except ε T} {rb : Except ε U}
    (h : RelE R ra rb) (hq : ∀ a b, R a b → Q a b) : RelE Q ra rb := by
  match ra, rb, h with
  | .error _, .error _, h => exact h
  | .ok a, .ok b, h => exact hq a b h
  | .error _, .ok _, h => exact h.elim
  | .ok _, .error _, h => exact h.elim

theorem RelE.refl {T : Type} (r : Except ε T) : RelE Eq r r := by
  cases r <;> rfl

theorem RelE.diag {T : Type} {P : T → Prop} (r : Except ε T) (h : ∀ a, r = .ok a → P a) :
    RelE (fun a b => a = b ∧ P a) r r := by
  cases r with
  | error e => exact rfl
  | ok a => exact ⟨rfl, h a rfl⟩

theorem RelE.map_right {T V : Type} (f : T → V) (r : Except ε T) : RelE (fun a b => b = f a) r (r.map f) := by
  cases r <;> rfl

/-- the `map e = map e` form of the ghost theorems is `RelE` of "equal after `e`" -/
theorem RelE.iff_map_eq {T V : Type} (e : T → V) {ra rb : Except ε T} :
    RelE (fun p q => e p = e q) ra rb ↔ ra.map e = rb.map e := by
  cases ra <;> cases rb <;> simp [RelE, Except.map]

theorem rel_ite {A B : Type} {R : A → B → Prop} {p : Prop} [Decidable p] {x y : A} {x' y' : B}
    (h1 : p → R x x') (h2 : ¬p → R y y') : R (if p then x else y) (if p then x' else y') := by
  split
  · exact h1 ‹_›
  · exact h2 ‹_›

end Lbfgsb
