/-
  Transport of the Cauchy point (`cauchy_transport`), and its ingredients for a change of units: objective multiplied by `a > 0`,
  variables by `b > 0`.
-/
import LbfgsbVerif.Props.C08Unique
import LbfgsbVerif.Proofs.VecMap

namespace Lbfgsb.Units
open Lbfgsb Matrix Lbfgsb.C08

section field
variable {K : Type} [Field K]

theorem vsub_smul_units (a b t : K) (hb : b ≠ 0) (x g : Vec K) :
    vsub (smul b x) (smul t (smul (a / b) g)) = smul b (vsub x (smul (a / (b * b) * t) g)) := by
  have e : t * (a / b) = b * (a / (b * b) * t) := by field_simp
  rw [smul_smul_vec, e, ← smul_smul_vec, vsub_smul]

end field

variable {K : Type} [Field K] [LinearOrder K] [IsStrictOrderedRing K]

/-- the factor between the two models, `B' = (a/b²) B`, and between the parameters of the two projected paths -/
theorem factor_pos {a b : K} (ha : 0 < a) (hb : 0 < b) : 0 < a / (b * b) := div_pos ha (mul_pos hb hb)

/-- objective multiplied by `a`, variables by `b` -/
structure SameProblem (a b : K) (i i' : CauchyIn K) : Prop where
  hx : i'.x = smul b i.x
  hg : i'.g = smul (a / b) i.g
  hlb : i'.lb = smul b i.lb
  hub : i'.ub = smul b i.ub

theorem pathAt_units (a b : K) (hb : 0 < b) (i i' : CauchyIn K) (h : SameProblem a b i i') (t : K) :
    pathAt i' t = smul b (pathAt i (a / (b * b) * t)) := by
  unfold pathAt
  rw [h.hx, h.hg, h.hlb, h.hub, ← clip_smul b hb, vsub_smul_units a b t (ne_of_gt hb)]

theorem qmodel_units {n : Nat} (a b : K) (hb : b ≠ 0) (G : Fin n → K) (B : Matrix (Fin n) (Fin n) K) (z : Fin n → K) :
    qmodel ((a / b) • G) ((a / (b * b)) • B) (b • z) = a * qmodel G B z := by
  unfold qmodel
  rw [smul_mulVec, mulVec_smul, smul_dotProduct, dotProduct_smul, dotProduct_smul, dotProduct_smul, smul_dotProduct]
  simp only [smul_eq_mul]
  -- `(a/b)·b = a` in the linear term, `(a/b²)·b² = a` in the quadratic one
  rw [← mul_assoc, div_mul_cancel₀ a hb, ← mul_assoc b b, ← mul_assoc (a / (b * b)), div_mul_cancel₀ a (mul_ne_zero hb hb),
    mul_add, mul_left_comm a]

theorem phi_units (a b : K) (hb : 0 < b) (i i' : CauchyIn K) (n k k' : Nat)
    (Mm : Matrix (Fin k) (Fin k) K) (Mm' : Matrix (Fin k') (Fin k') K) (h : SameProblem a b i i')
    (hB : bmat i'.theta (wmat n k' i'.W) Mm' = (a / (b * b)) • bmat i.theta (wmat n k i.W) Mm) (t : K) :
    phi i' n k' Mm' t = a * phi i n k Mm (a / (b * b) * t) := by
  unfold phi
  rw [pathAt_units a b hb i i' h t, hB, h.hg, h.hx, vec_smul, vec_smul, vec_smul, ← smul_sub, qmodel_units a b hb.ne']

theorem firstLocalMin_units (a c : K) (ha : 0 < a) (hc : 0 < c) (φ φ' : K → K) (hφ : ∀ t, φ' t = a * φ (c * t)) (tF : K)
    (h : FirstLocalMin φ tF) : FirstLocalMin φ' (tF / c) := by
  obtain ⟨h0, hdec, δ, hδ, hmin⟩ := h
  have hcne : c ≠ 0 := ne_of_gt hc
  refine ⟨div_nonneg h0 (le_of_lt hc), ?_, δ / c, div_pos hδ hc, ?_⟩
  · intro p q hp hpq hq
    rw [hφ, hφ]
    exact mul_lt_mul_of_pos_left
      (hdec (c * p) (c * q) (mul_nonneg hc.le hp) (mul_lt_mul_of_pos_left hpq hc) ((le_div_iff₀' hc).1 hq)) ha
  · intro τ h1 h2
    rw [hφ, hφ, mul_div_cancel₀ _ hcne]
    have e2 : c * τ ≤ tF + δ := (le_div_iff₀' hc).1 (by rwa [add_div])
    exact mul_le_mul_of_nonneg_left (hmin (c * τ) ((div_le_iff₀' hc).1 h1) e2) ha.le

/-- what the translation (Props/C08Shift) and the change of units (Props/C08Units) of C08 both instantiate: `F` is ANY map of vectors.
A first local minimiser of the path value is carried to one (`firstLocalMin_units`), and the first local minimiser is unique
(`gcp_is_the_first_local_min`). -/
theorem cauchy_transport (a κ : K) (ha : 0 < a) (hκ : 0 < κ) (F : Vec K → Vec K) (i i' : CauchyIn K) (n k k' : Nat)
    (Mm : Matrix (Fin k) (Fin k) K) (Mm' : Matrix (Fin k') (Fin k') K)
    (hk : kOf i = k) (hc : MinCtx i n k Mm (f2orgOf i)) (hk' : kOf i' = k') (hc' : MinCtx i' n k' Mm' (f2orgOf i'))
    (hpath : ∀ t, pathAt i' t = F (pathAt i (κ * t)))
    (hphi : ∀ t, phi i' n k' Mm' t = a * phi i n k Mm (κ * t)) :
    (cauchy i').1 = F (cauchy i).1 := by
  obtain ⟨tF, h0, hdec, hmin, hp, -⟩ := gcp_first_local_min i n k Mm hk hc
  have hflm := firstLocalMin_units a κ ha hκ (phi i n k Mm) (phi i' n k' Mm') hphi tF ⟨h0, hdec, hmin⟩
  have hpt := hpath (tF / κ)
  rw [mul_div_cancel₀ _ hκ.ne'] at hpt
  rw [gcp_is_the_first_local_min i' n k' Mm' hk' hc' _ hflm, hp]
  exact hpt

/-- `minCtx_nopairs` in exact arithmetic (`epsFsec = 0`: the floor is vacuous) -/
theorem minCtx_nopairs_nofloor (i : CauchyIn K) (n k : Nat) (hx : i.x.length = n) (hg : i.g.length = n)
    (hW : i.W.length = n) (hrow : ∀ r, r < n → (i.W.getD r []).length = k) (huf : i.useFactor = false)
    (hθ : 0 < i.theta) (hbox : InBoxF i.lb i.ub i.x) (he : i.epsFsec = 0) (f2org : K) :
    MinCtx i n k (0 : Matrix (Fin k) (Fin k) K) f2org :=
  minCtx_nopairs i n k hx hg hW hrow huf hθ hbox f2org fun dd _ _ => by
    rw [he, zero_mul]
    exact mul_nonneg hθ.le (dot_self_nonneg dd)

end Lbfgsb.Units
