/-
  Invariant of the shell used by the C18 theorems: the stored history `(X, G)` is bounded,
  its members are coherent `(point, gradient the user returned there × scale)` pairs, and all
  consecutive members passed the curvature test. Level U (+ `a * 1 = a` through C05).
-/
import LbfgsbVerif.Proofs.C05
import LbfgsbVerif.Props.C13

namespace Lbfgsb
variable {α ε δ : Type}

section mem
variable [Add α] [Sub α] [Mul α] [LT α] [DecidableLT α] [OfNat α 0]

/-- every stored point passed the curvature test against its predecessor when it entered
(orientation of `is_update_X_and_G`: newer against older) -/
def CurvChain (eps : α) : List (Vec α) → List (Vec α) → Prop
  | x1 :: x2 :: xs, g1 :: g2 :: gs =>
    curvOk x2 g2 x1 g1 eps = true ∧ CurvChain eps (x2 :: xs) (g2 :: gs)
  | _, _ => True

theorem diffs_getD (X : List (Vec α)) (j : Nat) (hj : j + 1 < X.length) :
    (diffs X).getD j [] = vsub (X.getD (j + 1) []) (X.getD j []) := by
  induction X generalizing j with
  | nil => exact absurd hj (Nat.not_lt_zero _)
  | cons a t ih =>
    cases t with
    | nil => exact absurd hj (by simp)
    | cons b rest =>
      cases j with
      | zero => rfl
      | succ j => exact ih j (Nat.lt_of_succ_lt_succ hj)

theorem CurvChain.curvOk_getD {eps : α} {X G : List (Vec α)} (hc : CurvChain eps X G) (hl : X.length = G.length)
    (j : Nat) (hj : j + 1 < X.length) :
    curvOk (X.getD (j + 1) []) (G.getD (j + 1) []) (X.getD j []) (G.getD j []) eps = true := by
  induction X generalizing G j with
  | nil => exact absurd hj (Nat.not_lt_zero _)
  | cons x1 t ih =>
    cases t with
    | nil => exact absurd hj (by simp)
    | cons x2 xs =>
      obtain ⟨g1, G', rfl⟩ := List.exists_cons_of_length_eq_add_one hl.symm
      obtain ⟨g2, gs, rfl⟩ := List.exists_cons_of_length_eq_add_one (Nat.succ.inj hl).symm
      cases j with
      | zero => exact hc.1
      | succ j => exact ih hc.2 (Nat.succ.inj hl) j (Nat.lt_of_succ_lt_succ hj)

theorem curvChain_append (eps : α) (X G : List (Vec α)) (x g : Vec α) (hl : X.length = G.length)
    (hc : CurvChain eps X G) (hne : X ≠ [])
    (hk : curvOk x g (lastD X) (lastD G) eps = true) : CurvChain eps (X ++ [x]) (G ++ [g]) := by
  match X, G, hl, hc, hne, hk with
  | [_], [_], _, _, _, hk => exact ⟨hk, trivial⟩
  | _ :: x2 :: xs, _ :: g2 :: gs, hl, hc, _, hk =>
    exact ⟨hc.1, curvChain_append eps (x2 :: xs) (g2 :: gs) x g (Nat.succ.inj hl) hc.2 (List.cons_ne_nil _ _) hk⟩
  | [], _, _, _, hne, _ => exact absurd rfl hne
  | [_], [], hl, _, _, _ => exact nomatch hl
  | [_], _ :: _ :: _, hl, _, _, _ => exact nomatch Nat.succ.inj hl
  | _ :: _ :: _, [], hl, _, _, _ => exact nomatch hl
  | _ :: _ :: _, [_], hl, _, _, _ => exact nomatch Nat.succ.inj hl

theorem curvChain_drop1 (eps : α) (X G : List (Vec α)) (hc : CurvChain eps X G) :
    CurvChain eps (X.drop 1) (G.drop 1) := by
  match X, G, hc with
  | _ :: _ :: _, _ :: _ :: _, hc => exact hc.2
  | [], _, _ => trivial
  | [_], _, _ => trivial
  | _ :: _ :: xs, [], _ => cases xs <;> trivial
  | _ :: _ :: xs, [_], _ => cases xs <;> trivial

/-- a well-formed history whose (point, gradient) members all satisfy `P` (C18: the gradient is the user's at
the point, `GradAt`) -/
structure MemOk (maxcor : Nat) (eps : α) (P : Vec α → Vec α → Prop) (X G : List (Vec α)) : Prop where
  len : X.length = G.length
  pos : X ≠ []
  bound : X.length ≤ maxcor + 1
  good : ∀ p ∈ X.zip G, P p.1 p.2
  chain : CurvChain eps X G

theorem MemOk.single (maxcor : Nat) (eps : α) (P : Vec α → Vec α → Prop) (x g : Vec α) (h : P x g) :
    MemOk maxcor eps P [x] [g] :=
  ⟨rfl, List.cons_ne_nil _ _, Nat.succ_le_succ (Nat.zero_le _), List.forall_mem_singleton.2 h, trivial⟩

theorem curvChain_drop (eps : α) (X G : List (Vec α)) (hc : CurvChain eps X G) (k : Nat) :
    CurvChain eps (X.drop k) (G.drop k) := by
  induction k with
  | zero => exact hc
  | succ k ih =>
    rw [← List.drop_drop, ← List.drop_drop (l := G)]
    exact curvChain_drop1 eps _ _ ih

/-- what the result `r` of `updateMats` keeps of a well-formed history `X`, whatever its members are; `two`: an
accepted pair leaves two points, since one is dropped only beyond `mc ≥ 1` -/
structure HistStep (eps : α) (mc : Nat) (X : List (Vec α)) (r : List (Vec α) × List (Vec α) × Mats α × Bool) :
    Prop where
  len : r.1.length = r.2.1.length
  chain : CurvChain eps r.1 r.2.1
  pos : r.1 ≠ []
  bound : X.length ≤ mc + 1 → r.1.length ≤ mc + 1
  two : 1 ≤ mc → r.2.2.2 = true → 1 < r.1.length

theorem updateMats_hist (eps : α) (X G : List (Vec α)) (x g : Vec α) (mc : Nat) (mats : Mats α)
    (hl : X.length = G.length) (hne : X ≠ []) (hc : CurvChain eps X G) :
    HistStep eps mc X (updateMats x g X G mc mats eps) := by
  have hpos := List.length_pos_iff.2 hne
  cases hk : curvOk x g (lastD X) (lastD G) eps
  · rw [updateMats_reject x g X G mc mats eps hk]
    exact ⟨hl, hc, hne, id, fun _ h => absurd h Bool.false_ne_true⟩
  · rw [updateMats_accept x g X G mc mats eps hk]
    refine ⟨by simp only [List.length_drop, List.length_append, List.length_singleton, hl],
      curvChain_drop eps _ _ (curvChain_append eps X G x g hl hc hne hk) _, ?_, ?_, ?_⟩
    · apply List.ne_nil_of_length_pos
      rw [List.length_drop, List.length_append, List.length_singleton]
      split <;> omega
    · rw [List.length_drop, List.length_append, List.length_singleton]
      intro hb
      split <;> omega
    · rw [List.length_drop, List.length_append, List.length_singleton]
      intro hm _
      split <;> omega

theorem pairsOk_iff_curvChain (eps : α) (hsym : ∀ x g x' g' : Vec α, curvOk x g x' g' eps = curvOk x' g' x g eps) :
    ∀ X G : List (Vec α), C13.PairsOk eps X G ↔ CurvChain eps X G
  | x1 :: x2 :: xs, g1 :: g2 :: gs => by
    rw [C13.PairsOk, CurvChain, hsym, pairsOk_iff_curvChain eps hsym (x2 :: xs) (g2 :: gs)]
  | [], _ => Iff.rfl
  | [_], _ => Iff.rfl
  | _ :: _ :: _, [] => Iff.rfl
  | _ :: _ :: _, [_] => Iff.rfl

theorem MemOk.update (maxcor : Nat) (eps : α) (P : Vec α → Vec α → Prop) (X G : List (Vec α))
    (x g : Vec α) (mats : Mats α) (h : MemOk maxcor eps P X G) (hp : P x g) :
    MemOk maxcor eps P (updateMats x g X G maxcor mats eps).1 (updateMats x g X G maxcor mats eps).2.1 := by
  have hs := updateMats_hist eps X G x g maxcor mats h.len h.pos h.chain
  refine ⟨hs.len, hs.pos, hs.bound h.bound, ?_, hs.chain⟩
  cases hk : curvOk x g (lastD X) (lastD G) eps
  · rw [updateMats_reject x g X G maxcor mats eps hk]
    exact h.good
  · rw [updateMats_accept x g X G maxcor mats eps hk]
    intro p hp'
    rw [List.zip, ← List.drop_zipWith, ← List.zip, List.zip_append h.len] at hp'
    rcases List.mem_append.1 (List.mem_of_mem_drop hp') with h1 | h1
    · exact h.good p h1
    · rw [List.zip_cons_cons, List.zip_nil_right, List.mem_singleton] at h1
      exact h1 ▸ hp

end mem

section run
variable [LinearOrder α] [Add α] [Sub α] [Mul α] [Div α] [Neg α] [OfNat α 0] [OfNat α 1]
  [FloatLike α]

/-- the gradient half of `CohAt` (Proofs/C05.lean) -/
def GradAt (u : User α ε) (c : Cfg α) (sc : α) (x g : Vec α) : Prop :=
  ∃ g0, gradSpec u.toSFUser c.lb c.ub c.mode x = .ok g0 ∧ g = vscale g0 sc

structure Inv18 (u : User α ε) (c : Cfg α) (sc : α) (n g : Nat) (s : St α) : Prop where
  i5 : Inv5 u c sc n g s
  mem : MemOk c.maxcor c.epsSY (GradAt u c sc) s.X s.G
  cbs : ∀ cb ∈ s.cbStates, ∃ X G, MemOk c.maxcor c.epsSY (GradAt u c sc) X G ∧
          cb.sk = diffs X ∧ cb.yk = diffs G

theorem Inv18.congr {u : User α ε} {c : Cfg α} {sc : α} {n g : Nat} {s : St α} (hi : Inv18 u c sc n g s)
    (t : Msg) (su : Bool) (w : Nat) : Inv18 u c sc n g { s with task := t, success := su, warnflag := w } :=
  ⟨{ hi.i5 with }, hi.mem, hi.cbs⟩

/-- the rule is run on the history alone, under the premise that the current pair is coherent; `Inv5` of the
new state (C05) supplies it (`at_x`) -/
theorem iterBody_inv18 (u : User α ε) (o : Oracles α δ) (c : Cfg α) (hU : c.hasUpdate = false)
    (sc : α) (n g : Nat) (s s' : St α) (flow : Flow) (hi : Inv18 u c sc n g s)
    (h : iterBody u o c s = .ok (s', flow)) : Inv18 u c sc n g s' := by
  have i5' := iterBody_inv5 hU hi.i5 h
  suffices key : GradAt u c sc s'.x s'.g → MemOk c.maxcor c.epsSY (GradAt u c sc) s'.X s'.G ∧
      ∀ cb ∈ s'.cbStates, ∃ X G, MemOk c.maxcor c.epsSY (GradAt u c sc) X G ∧ cb.sk = diffs X ∧ cb.yk = diffs G from
    ⟨i5', (key i5'.at_x.2).1, (key i5'.at_x.2).2⟩
  apply iterBody_rule h
  case ls => exact fun _ _ _ _ _ => ⟨hi.mem, hi.cbs⟩
  case move => exact fun _ _ _ _ _ _ _ _ _ _ => ⟨hi.mem, hi.cbs⟩
  case upd => exact fun _ _ _ hT => absurd (hU.symm.trans hT) Bool.false_ne_true
  case flags => exact fun _ _ _ _ it => it
  case reset =>
    exact fun t it hg => ⟨MemOk.single _ _ _ _ _ ((it hg).1.good _ (lastD_zip_mem t.X t.G (it hg).1.len (it hg).1.pos)),
      (it hg).2⟩
  case mem => exact fun t it hg => ⟨MemOk.update c.maxcor c.epsSY _ t.X t.G _ _ t.mats (it hg).1 hg, (it hg).2⟩
  case cb =>
    exact fun t _ _ _ _ it hg => ⟨(it hg).1,
      List.forall_mem_append.2 ⟨(it hg).2, List.forall_mem_singleton.2 ⟨_, _, (it hg).1, rfl, rfl⟩⟩⟩
  case nit => exact fun _ it => it

end run

section fresh
variable [LT α] [DecidableLT α] [Add α] [Sub α] [Mul α] [Div α] [Neg α] [OfNat α 0] [OfNat α 1]
  [FloatLike α]

theorem initEval_fresh (u : User α ε) (c : Cfg α) (i : Init α) (hck : c.checkpoint = none)
    (h : initEval u c = .ok i) : i.X = [] ∧ i.G = [] := by
  obtain ⟨sf0, sf1, sf2, -, -, -, e⟩ := initEval_ok h
  rw [e, hck]
  exact ⟨rfl, rfl⟩

theorem prepare_fresh_any (u : User α ε) (c : Cfg α) (i : Init α) (s : St α)
    (hX : i.X = []) (hG : i.G = []) (h : prepare u c i = .ok s) :
    s.X = [s.x] ∧ s.G = [s.g] ∧ s.cbStates = [] := by
  obtain ⟨sf, g, s1, s2, -, h1, h2, rfl⟩ := prepare_ok h
  have e1 : s1.X = [] ∧ s1.G = [] ∧ s1.cbStates = [] := by
    rcases applyScaler_ok h1 with ⟨-, rfl⟩ | ⟨sc, -, -, rfl⟩
    · exact ⟨hX, hG, rfl⟩
    · exact ⟨hX, hG, rfl⟩
  have e2 : s2.X = [] ∧ s2.cbStates = [] := by
    rcases applyUpdate0_ok h2 with ⟨-, rfl⟩ | ⟨r, -, -, rfl⟩
    · exact ⟨e1.1, e1.2.2⟩
    · exact ⟨by simp [e1.1], e1.2.2⟩
  unfold initMemory
  have hlen : ¬ s2.X.length > 0 := e2.1 ▸ Nat.lt_irrefl 0
  rw [if_neg hlen]
  exact ⟨rfl, rfl, e2.2⟩

end fresh
end Lbfgsb
