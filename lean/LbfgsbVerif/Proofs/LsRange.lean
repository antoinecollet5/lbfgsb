/-
  With the concrete Moré–Thuente stepper (Model/Dcsrch.lean) plugged into the line search of the
  driver model, the step the line search returns and the step of every trial point it evaluates
  lie in `[0, max_allowed_steplength]` — any arithmetic (level U).
-/
import LbfgsbVerif.Proofs.Dcsrch
import LbfgsbVerif.Proofs.Shell

namespace Lbfgsb
open Dcsrch
variable {α ε : Type} [LinearOrder α] [Add α] [Sub α] [Mul α] [Div α] [Neg α] [OfNat α 0] [OfNat α 1]
  [FloatLike α] [DcOps α]

/-- the stepper oracle is the model of SciPy's DCSRCH -/
structure ConcreteStepper (o : Oracles α (DC α)) : Prop where
  new : ∀ x0 d ftol gtol xtol stpmax, o.dcNew x0 d ftol gtol xtol stpmax = DC.new ftol gtol xtol 0 stpmax
  iter : ∀ st stp f g task, o.dcIter st stp f g task = iterate st stp f g task

/-- invariant of the line-search loop while it goes on: the hypotheses of `iterate_fg_ok` for the
next call of the stepper, and the best step so far in range -/
structure LsR (hi : α) (l : LS α (DC α)) : Prop where
  best : ∀ b, l.best = some b → InR hi b
  fresh : l.task = .start → l.dc.stpmin = 0 ∧ l.dc.stpmax = hi
  run : l.task ≠ .start → Ok 0 hi l.dc ∧ InR hi l.stp0

theorem start_task (st : DC α) (stp f g : α) : (start st stp f g).2.2 = .fg ∨ (start st stp f g).2.2 = .error := by
  unfold start
  dsimp only
  split
  · exact Or.inr rfl
  · exact Or.inl rfl

theorem LsR.init {o : Oracles α (DC α)} (ho : ConcreteStepper o) (x0 d : Vec α) (ftol gtol xtol hi : α)
    {l : LS α (DC α)} (hd : l.dc = o.dcNew x0 d ftol gtol xtol hi) (ht : l.task = .start)
    (hb : l.best = none) : LsR hi l := by
  refine ⟨fun b h => ?_, fun _ => ?_, fun h => absurd ht h⟩
  · rw [hb] at h
    cases h
  · rw [hd, ho.new]
    exact ⟨rfl, rfl⟩

/-- what `lineSearch_range` says of one logged call -/
def LSCallR (u : User α ε) (mode : GradMode) (x0 d lb ub : Vec α) (hi : α) (c : Call α) : Prop :=
  ∃ stp, InR hi stp ∧ EvalAt u.toSFUser mode (trial x0 d lb ub stp) c

/-- `sf` is the wrapper the search started from. `Coh` is what `funAndGrad_sum` needs at the next evaluation, and the mode is
carried because `EvalAt` reads it -/
def LogR (u : User α ε) (sf : SF α) (x0 d lb ub : Vec α) (hi : α) (l : LS α (DC α)) : Prop :=
  Coh u.toSFUser l.sf ∧ l.sf.mode = sf.mode ∧ LogExt (LSCallR u sf.mode x0 d lb ub hi) sf.log l.sf.log

theorem lsStep_range (u : User α ε) (o : Oracles α (DC α)) (ho : ConcreteStepper o) (x0 d lb ub : Vec α) (hi : α)
    (l l' : LS α (DC α)) (cont : Bool) (hl : LsR hi l) (h : lsStep u o x0 d lb ub l = .ok (l', cont)) :
    (∀ b, l'.best = some b → InR hi b) ∧ (cont = true → LsR hi l') ∧
      ∀ sf0, LogR u sf0 x0 d lb ub hi l → LogR u sf0 x0 d lb ub hi l' := by
  obtain ⟨dc, stp, task, hr, hcase⟩ := lsStep_ok h
  rw [ho.iter] at hr
  rcases hcase with ⟨-, rfl, rfl⟩ | ⟨rfl, rfl, sf1, f, g, he, rfl⟩
  · exact ⟨hl.best, fun hc => (by cases hc), fun sf0 hlog => hlog⟩
  · have hcall := iterate_fg_ok 0 hi l.dc l.stp0 l.fm1 l.dphim1 l.task hl.fresh hl.run (by rw [hr])
    rw [hr] at hcall
    obtain ⟨hok, hin⟩ := hcall
    have hbest : ∀ b, (if f < l.fBest then some stp else l.best) = some b → InR hi b := by
      intro b hb
      split at hb
      · cases hb
        exact hin
      · exact hl.best b hb
    refine ⟨hbest, fun _ => ⟨hbest, fun h' => (by cases h'), fun _ => ⟨hok, hin⟩⟩, ?_⟩
    intro sf0 ⟨hcoh, hm, hlog⟩
    obtain ⟨es, -, -⟩ := funAndGrad_sum hcoh he
    refine ⟨es.coh, es.mode.trans hm, hlog.trans (es.log.mono fun c hc' => ⟨stp, hin, ?_⟩)⟩
    rw [← hm]
    exact hc'

theorem lsLoop_range (u : User α ε) (o : Oracles α (DC α)) (ho : ConcreteStepper o) (x0 d lb ub : Vec α) (hi : α)
    (sf0 : SF α) (fuel : Nat) (l l' : LS α (DC α)) (ex : Bool) (hl : LsR hi l)
    (hlog : Coh u.toSFUser sf0 → LogR u sf0 x0 d lb ub hi l)
    (h : lsLoop u o x0 d lb ub fuel l = .ok (l', ex)) :
    (∀ b, l'.best = some b → InR hi b) ∧ (Coh u.toSFUser sf0 → LogR u sf0 x0 d lb ub hi l') := by
  -- `LsR` holds only while the loop goes on; the number of steps plays no part
  obtain ⟨-, -, hq⟩ := lsLoop_rule
    (P := fun _ l => LsR hi l ∧ (Coh u.toSFUser sf0 → LogR u sf0 x0 d lb ub hi l))
    (Q := fun _ l => (∀ b, l.best = some b → InR hi b) ∧
      (Coh u.toSFUser sf0 → LogR u sf0 x0 d lb ub hi l))
    (fun _ l hp => ⟨hp.1.best, hp.2⟩)
    (fun _ l l' cont hp hst => by
      obtain ⟨hb, hc, hg⟩ := lsStep_range u o ho x0 d lb ub hi l l' cont hp.1 hst
      have hlog' : Coh u.toSFUser sf0 → LogR u sf0 x0 d lb ub hi l' :=
        fun hcoh => hg sf0 (hp.2 hcoh)
      exact ⟨⟨hb, hlog'⟩, fun hcont => ⟨hc hcont, hlog'⟩⟩)
    fuel 0 l l' ex ⟨hl, hlog⟩ h
  exact hq

theorem lineSearch_range (u : User α ε) (o : Oracles α (DC α)) (ho : ConcreteStepper o) (c : Cfg α)
    (x0 : Vec α) (f0 : α) (g0 d : Vec α) (nit : Nat) (sf sf' : SF α) (maxIter : Nat) (olog olog' : List (OReq α))
    (stp? : Option α) (h : lineSearch u o c x0 f0 g0 d nit sf maxIter olog = .ok (sf', stp?, olog')) :
    (∀ stp, stp? = some stp → InR (maxAllowedStep x0 d c.lb c.ub c.maxStep nit) stp) ∧
    (Coh u.toSFUser sf →
      LogExt (LSCallR u sf.mode x0 d c.lb c.ub (maxAllowedStep x0 d c.lb c.ub c.maxStep nit)) sf.log sf'.log) := by
  obtain ⟨l, ex, hloop, hp⟩ := lineSearch_ok h
  obtain ⟨rfl, -, hs⟩ := lsPost_ok hp
  obtain ⟨hb, hlog⟩ := lsLoop_range u o ho x0 d c.lb c.ub _ sf maxIter _ l ex
    (LsR.init ho x0 d _ _ _ _ rfl rfl rfl) (fun hc => ⟨hc, rfl, LogExt.refl _⟩) hloop
  refine ⟨fun stp hstp => ?_, fun hc => (hlog hc).2.2⟩
  rcases hs with hs | hs
  · rw [hs] at hstp
    cases hstp
  · rw [hs] at hstp
    exact hb stp hstp

end Lbfgsb
