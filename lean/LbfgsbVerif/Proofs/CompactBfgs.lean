/-
  Byrd–Nocedal–Schnabel: the compact representation `θ I − W N⁻¹ Wᵀ` IS the BFGS matrix of the
  stored pairs. Proved by bordering: adding a pair `(s, y)` to a representation `(W, N, N⁻¹)`
  of `B` appends the columns `θ s`, `y` to `W`, borders `N` with the column `w = Wᵀ s`, the
  diagonal entries `θ sᵀs` and `−sᵀy`, and the inverse of the bordered matrix is explicit (Schur
  complement `σ = sᵀ B s`): the old inverse padded by zeros plus `q qᵀ/σ − e eᵀ/sᵀy` with `q = (N⁻¹w, −1, 0)`, `e = (0, 0, 1)`.
  Since `W' q = −B s` and `W' e = y`, the resulting `θ I − W' N'⁻¹ W'ᵀ` is the BFGS update of `B`.
  The induction carries a RIGHT inverse (`Nl * Ninvl = 1`, as the fixed `compact_eq_bfgs` states it) while the kernel contexts ask for a
  left inverse of the middle matrix; `C01.kernel_minv_invertible` is the one place where `mul_eq_one_comm` passes from one to the other.
-/
import LbfgsbVerif.Props.C10

namespace Lbfgsb.CompactBfgs
open Matrix
variable {n : Type} [Fintype n] [DecidableEq n]
variable {K : Type} [Field K]
variable {κ : Type} [Fintype κ] [DecidableEq κ]

/-- the index type after one more pair: the old columns, then the column of `s`, then the column of `y` -/
abbrev Ext (κ : Type) := (κ ⊕ Unit) ⊕ Unit

def extW (W : Matrix n κ K) (θ : K) (s y : n → K) : Matrix n (Ext κ) K :=
  Matrix.of fun i c => match c with
    | .inl (.inl a) => W i a
    | .inl (.inr _) => θ * s i
    | .inr _ => y i

def extN (W : Matrix n κ K) (N : Matrix κ κ K) (θ : K) (s y : n → K) : Matrix (Ext κ) (Ext κ) K :=
  Matrix.of fun c d => match c, d with
    | .inl (.inl a), .inl (.inl b) => N a b
    | .inl (.inl a), .inl (.inr _) => (Wᵀ *ᵥ s) a
    | .inl (.inr _), .inl (.inl b) => (Wᵀ *ᵥ s) b
    | .inl (.inr _), .inl (.inr _) => θ * (s ⬝ᵥ s)
    | .inr _, .inr _ => -(s ⬝ᵥ y)
    | _, _ => 0

/-- its inverse (Schur complement `σ = θ sᵀs − wᵀ N⁻¹ w = sᵀ B s`) -/
noncomputable def extNinv (W : Matrix n κ K) (Ninv : Matrix κ κ K) (θ : K) (s y : n → K) : Matrix (Ext κ) (Ext κ) K :=
  let u := Ninv *ᵥ (Wᵀ *ᵥ s)
  let σ := θ * (s ⬝ᵥ s) - (Wᵀ *ᵥ s) ⬝ᵥ u
  Matrix.of fun c d => match c, d with
    | .inl (.inl a), .inl (.inl b) => Ninv a b + u a * u b / σ
    | .inl (.inl a), .inl (.inr _) => -(u a) / σ
    | .inl (.inr _), .inl (.inl b) => -(u b) / σ
    | .inl (.inr _), .inl (.inr _) => 1 / σ
    | .inr _, .inr _ => -(1 / (s ⬝ᵥ y))
    | _, _ => 0

theorem sum_ext (f : Ext κ → K) :
    ∑ c, f c = (∑ a, f (.inl (.inl a))) + f (.inl (.inr ())) + f (.inr ()) := by
  rw [Fintype.sum_sum_type, Fintype.sum_sum_type, Fintype.sum_unique fun u : Unit => f (.inl (.inr u)),
    Fintype.sum_unique fun u : Unit => f (.inr u)]

section step
variable (W : Matrix n κ K) (N Ninv : Matrix κ κ K) (θ : K) (s y : n → K)

abbrev uv : κ → K := Ninv *ᵥ (Wᵀ *ᵥ s)
abbrev sig : K := θ * (s ⬝ᵥ s) - (Wᵀ *ᵥ s) ⬝ᵥ (Ninv *ᵥ (Wᵀ *ᵥ s))

/-- the part of the bordered inverse that is the old inverse, padded by zeros in the rows and columns of the new pair -/
def padZ (M : Matrix κ κ K) : Matrix (Ext κ) (Ext κ) K :=
  Matrix.of fun c d => match c, d with
    | .inl (.inl a), .inl (.inl b) => M a b
    | _, _ => 0

def qv (u : κ → K) : Ext κ → K := fun c => match c with
  | .inl (.inl a) => u a
  | .inl (.inr _) => -1
  | .inr _ => 0

def ev : Ext κ → K := fun c => match c with
  | .inr _ => 1
  | _ => 0

theorem extNinv_eq : extNinv W Ninv θ s y =
    padZ Ninv + (1 / sig W Ninv θ s) • vecMulVec (qv (uv W Ninv s)) (qv (uv W Ninv s))
      - (1 / (s ⬝ᵥ y)) • vecMulVec (ev : Ext κ → K) ev := by
  ext c d
  rcases c with (a | ⟨⟩) | ⟨⟩ <;> rcases d with (d | ⟨⟩) | ⟨⟩ <;>
    dsimp only [extNinv, padZ, qv, ev, Matrix.of_apply, Matrix.sub_apply, Matrix.add_apply, Matrix.smul_apply,
      vecMulVec_apply, smul_eq_mul] <;> ring

theorem extW_q (u : κ → K) : extW W θ s y *ᵥ qv u = W *ᵥ u - θ • s := by
  funext i
  simp only [mulVec, dotProduct, sum_ext, extW, qv, Matrix.of_apply, Pi.sub_apply, Pi.smul_apply, smul_eq_mul]
  ring

theorem extW_e : extW W θ s y *ᵥ ev = y := by
  funext i
  simp only [mulVec, dotProduct, sum_ext, extW, ev, Matrix.of_apply, mul_zero, mul_one, Finset.sum_const_zero,
    zero_add]

theorem extW_Z (M : Matrix κ κ K) : extW W θ s y * padZ M * (extW W θ s y)ᵀ = W * M * Wᵀ := by
  ext i j
  simp only [Matrix.mul_apply, sum_ext, extW, padZ, Matrix.of_apply, Matrix.transpose_apply, mul_zero, zero_mul,
    add_zero, Finset.sum_const_zero]

theorem conj_vecMulVec {m : Type} [Fintype m] (X : Matrix n m K) (v : m → K) :
    X * vecMulVec v v * Xᵀ = vecMulVec (X *ᵥ v) (X *ᵥ v) := by
  rw [mul_vecMulVec, vecMulVec_mul, vecMul_transpose]

theorem ext_B :
    θ • (1 : Matrix n n K) - extW W θ s y * extNinv W Ninv θ s y * (extW W θ s y)ᵀ =
      C10.bfgs (θ • (1 : Matrix n n K) - W * Ninv * Wᵀ) s y := by
  unfold C10.bfgs
  rw [Compact.compactB_quad, Compact.compactB_mulVec, extNinv_eq, Matrix.mul_sub, Matrix.mul_add, Matrix.sub_mul, Matrix.add_mul,
    Matrix.mul_smul, Matrix.mul_smul, Matrix.smul_mul, Matrix.smul_mul, conj_vecMulVec, conj_vecMulVec,
    extW_Z, extW_q, extW_e, ← neg_sub (θ • s), neg_vecMulVec, vecMulVec_neg, neg_neg, ← sub_add, ← sub_sub]

def ev2 : Ext κ → K := fun c => match c with
  | .inl (.inr _) => 1
  | _ => 0

theorem mulVec_ext {m : Type} (M : Matrix m (Ext κ) K) (v : Ext κ → K) (i : m) :
    (M *ᵥ v) i = (∑ a, M i (.inl (.inl a)) * v (.inl (.inl a))) + M i (.inl (.inr ())) * v (.inl (.inr ()))
      + M i (.inr ()) * v (.inr ()) :=
  sum_ext _

theorem extN_q (hinv : N * Ninv = 1) :
    extN W N θ s y *ᵥ qv (uv W Ninv s) = (-(sig W Ninv θ s)) • ev2 := by
  have hu : N *ᵥ uv W Ninv s = Wᵀ *ᵥ s := by rw [mulVec_mulVec, hinv, one_mulVec]
  funext c
  rw [mulVec_ext]
  rcases c with (a | ⟨⟩) | ⟨⟩
  · -- an old row: `N u = w`
    simp only [extN, qv, ev2, Matrix.of_apply, Pi.smul_apply, smul_eq_mul, mul_zero, add_zero]
    rw [show ∑ b, N a b * uv W Ninv s b = (Wᵀ *ᵥ s) a from congrFun hu a]
    ring
  · -- the row of `s`: `wᵀu − θ sᵀs = −σ`
    simp only [extN, qv, ev2, Matrix.of_apply, Pi.smul_apply, smul_eq_mul, mul_zero, add_zero, sig, dotProduct]
    ring
  · simp only [extN, qv, ev2, Matrix.of_apply, Pi.smul_apply, smul_eq_mul, mul_zero, zero_mul, add_zero,
      Finset.sum_const_zero]

theorem extN_e : extN W N θ s y *ᵥ ev = (-(s ⬝ᵥ y)) • ev := by
  funext c
  rw [mulVec_ext]
  rcases c with (a | ⟨⟩) | ⟨⟩ <;>
    simp only [extN, ev, Matrix.of_apply, Pi.smul_apply, smul_eq_mul, mul_zero, mul_one, add_zero,
      zero_add, Finset.sum_const_zero]

theorem ext_inv (hinv : N * Ninv = 1) (hsym : Ninvᵀ = Ninv) (hσ : sig W Ninv θ s ≠ 0) (hρ : s ⬝ᵥ y ≠ 0) :
    extN W N θ s y * extNinv W Ninv θ s y = 1 := by
  have h1 : 1 / sig W Ninv θ s * -(sig W Ninv θ s) = -1 := by rw [mul_neg, one_div_mul_cancel hσ]
  have h2 : 1 / (s ⬝ᵥ y) * -(s ⬝ᵥ y) = -1 := by rw [mul_neg, one_div_mul_cancel hρ]
  have hw : (Wᵀ *ᵥ s) ᵥ* Ninv = uv W Ninv s := by rw [← mulVec_transpose, hsym]
  rw [extNinv_eq, Matrix.mul_sub, Matrix.mul_add, Matrix.mul_smul, Matrix.mul_smul, mul_vecMulVec, mul_vecMulVec,
    extN_q W N Ninv θ s y hinv, extN_e, smul_vecMulVec, smul_vecMulVec, smul_smul, smul_smul, h1, h2,
    neg_one_smul, neg_one_smul, sub_neg_eq_add, ← sub_eq_add_neg]
  ext c d
  rw [Matrix.add_apply, Matrix.sub_apply, Matrix.mul_apply, sum_ext]
  rcases d with (d | ⟨⟩) | ⟨⟩
  · -- an old column: the three rows carry the argument
    rcases c with (a | ⟨⟩) | ⟨⟩
    · -- old row: `N N⁻¹ = 1`
      simp only [extN, padZ, qv, ev, ev2, Matrix.of_apply, vecMulVec_apply, mul_zero, zero_mul, add_zero, sub_zero,
        Matrix.one_apply, Sum.inl.injEq]
      exact (congrFun (congrFun hinv a) d).trans (Matrix.one_apply ..)
    · -- row of `s`: `wᵀN⁻¹ − uᵀ = 0`, as `N⁻¹` is symmetric
      simp only [extN, padZ, qv, ev, ev2, Matrix.of_apply, vecMulVec_apply, mul_zero, add_zero, one_mul,
        Matrix.one_apply, Sum.inl.injEq, reduceCtorEq, if_false]
      exact (congrArg (· - uv W Ninv s d) (congrFun hw d)).trans (sub_self _)
    · -- row of `y`: zero against every old column
      simp only [extN, padZ, qv, ev, ev2, Matrix.of_apply, vecMulVec_apply, mul_zero, zero_mul, add_zero, sub_zero,
        Finset.sum_const_zero, Matrix.one_apply, reduceCtorEq, if_false]
  · -- the column of `s`: the padded `N⁻¹` vanishes there and `e₂ qᵀ` has the entry `−1` in the row of `s` only
    rcases c with (a | ⟨⟩) | ⟨⟩ <;>
      simp only [extN, padZ, qv, ev, ev2, Matrix.of_apply, vecMulVec_apply, mul_zero, add_zero, sub_zero, mul_neg,
        mul_one, neg_zero, sub_neg_eq_add, zero_add, Finset.sum_const_zero, Matrix.one_apply, Sum.inl.injEq, reduceCtorEq,
        if_false, if_true]
  · -- the column of `y`: only `e eᵀ` is not zero there
    rcases c with (a | ⟨⟩) | ⟨⟩ <;>
      simp only [extN, padZ, qv, ev, ev2, Matrix.of_apply, vecMulVec_apply, mul_zero, add_zero, sub_zero,
        mul_one, zero_add, Finset.sum_const_zero, Matrix.one_apply, reduceCtorEq, if_false, if_true]

theorem padZ_transpose (M : Matrix κ κ K) : (padZ M)ᵀ = padZ Mᵀ := by
  ext c d
  rcases c with (a | ⟨⟩) | ⟨⟩ <;> rcases d with (d | ⟨⟩) | ⟨⟩ <;> rfl

theorem ext_symm (hsym : Ninvᵀ = Ninv) : (extNinv W Ninv θ s y)ᵀ = extNinv W Ninv θ s y := by
  rw [extNinv_eq, transpose_sub, transpose_add, transpose_smul, transpose_smul, transpose_vecMulVec, transpose_vecMulVec,
    padZ_transpose, hsym]

end step

variable [LinearOrder K] [IsStrictOrderedRing K]

def Idx : List ((n → K) × (n → K)) → Type
  | [] => PEmpty
  | _ :: l => Ext (Idx l)

instance instFintypeIdx : (l : List ((n → K) × (n → K))) → Fintype (Idx l)
  | [] => inferInstanceAs (Fintype PEmpty)
  | _ :: l => by
    haveI := instFintypeIdx l
    exact inferInstanceAs (Fintype ((Idx l ⊕ Unit) ⊕ Unit))

instance instDecEqIdx : (l : List ((n → K) × (n → K))) → DecidableEq (Idx l)
  | [] => inferInstanceAs (DecidableEq PEmpty)
  | _ :: l => by
    haveI := instDecEqIdx l
    exact inferInstanceAs (DecidableEq ((Idx l ⊕ Unit) ⊕ Unit))

/-- pairs are listed newest first -/
noncomputable def Wl (θ : K) : (l : List ((n → K) × (n → K))) → Matrix n (Idx l) K
  | [] => 0
  | p :: l => extW (Wl θ l) θ p.1 p.2

noncomputable def Nl (θ : K) : (l : List ((n → K) × (n → K))) → Matrix (Idx l) (Idx l) K
  | [] => 0
  | p :: l => extN (Wl θ l) (Nl θ l) θ p.1 p.2

noncomputable def Ninvl (θ : K) : (l : List ((n → K) × (n → K))) → Matrix (Idx l) (Idx l) K
  | [] => 0
  | p :: l => extNinv (Wl θ l) (Ninvl θ l) θ p.1 p.2

noncomputable def bfgsRev (θ : K) : List ((n → K) × (n → K)) → Matrix n n K
  | [] => θ • 1
  | p :: l => C10.bfgs (bfgsRev θ l) p.1 p.2

def NonDeg (θ : K) : List ((n → K) × (n → K)) → Prop
  | [] => True
  | p :: l => p.1 ⬝ᵥ (bfgsRev θ l *ᵥ p.1) ≠ 0 ∧ p.1 ⬝ᵥ p.2 ≠ 0 ∧ NonDeg θ l

/-- **Byrd–Nocedal–Schnabel.** For pairs `l` (newest first) with `sᵀB s ≠ 0`, `sᵀy ≠ 0` at every step, the bordered middle matrix
`Nl` has the explicit inverse `Ninvl` (a right inverse, symmetric) and `θ I − Wl Ninvl Wlᵀ` is the chain of BFGS updates from `θ I`.
The three facts are proved together: each step of the induction needs the inverse and its symmetry for the older pairs. -/
theorem compact_eq_bfgs (θ : K) (l : List ((n → K) × (n → K))) (h : NonDeg θ l) :
    Nl θ l * Ninvl θ l = 1 ∧ (Ninvl θ l)ᵀ = Ninvl θ l ∧
    θ • (1 : Matrix n n K) - Wl θ l * Ninvl θ l * (Wl θ l)ᵀ = bfgsRev θ l := by
  induction l with
  | nil =>
    refine ⟨Matrix.ext fun i => i.elim, Matrix.ext fun i => i.elim, ?_⟩
    simp only [Wl, Ninvl, bfgsRev]
    rw [Matrix.zero_mul, Matrix.zero_mul, sub_zero]
  | cons p l ih =>
    obtain ⟨hσ, hρ, hl⟩ := h
    obtain ⟨h1, h2, h3⟩ := ih hl
    rw [← h3, Compact.compactB_quad] at hσ
    exact ⟨ext_inv _ _ _ θ p.1 p.2 h1 h2 hσ hρ, ext_symm _ _ θ p.1 p.2 h2,
      (ext_B (Wl θ l) (Ninvl θ l) θ p.1 p.2).trans (congrArg (C10.bfgs · p.1 p.2) h3)⟩

end Lbfgsb.CompactBfgs
