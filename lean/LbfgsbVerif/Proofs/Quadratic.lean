/-
  Products and quadratic forms of `bmat`, the model along a line, and `kOf` read off the first row of `W`.
-/
import LbfgsbVerif.Spec.Quadratic

namespace Lbfgsb
open Matrix
variable {K : Type} [Field K] [LinearOrder K] [IsStrictOrderedRing K]

theorem kOf_eq (i : CauchyIn K) (h : 0 < i.W.length) : kOf i = (i.W.getD 0 []).length := by
  unfold kOf
  cases hW : i.W with
  | nil =>
    rw [hW] at h
    exact absurd h (lt_irrefl 0)
  | cons r t => rfl

theorem bmat_mulVec {n k : Nat} (θ : K) (Wm : Matrix (Fin n) (Fin k) K) (Mm : Matrix (Fin k) (Fin k) K)
    (z : Fin n → K) : bmat θ Wm Mm *ᵥ z = θ • z - Wm *ᵥ (Mm *ᵥ (Wmᵀ *ᵥ z)) := by
  unfold bmat
  rw [sub_mulVec, smul_mulVec, one_mulVec, ← mulVec_mulVec, ← mulVec_mulVec]

theorem bmat_row {n k : Nat} (θ : K) (Wm : Matrix (Fin n) (Fin k) K) (Mm : Matrix (Fin k) (Fin k) K)
    (z : Fin n → K) (r : Fin n) :
    (bmat θ Wm Mm *ᵥ z) r = θ * z r - Wm r ⬝ᵥ (Mm *ᵥ (Wmᵀ *ᵥ z)) := by
  rw [bmat_mulVec]
  rfl

theorem bmat_quad {n k : Nat} (θ : K) (Wm : Matrix (Fin n) (Fin k) K) (Mm : Matrix (Fin k) (Fin k) K)
    (a : Fin n → K) : a ⬝ᵥ (bmat θ Wm Mm *ᵥ a) = θ * (a ⬝ᵥ a) - (Wmᵀ *ᵥ a) ⬝ᵥ (Mm *ᵥ (Wmᵀ *ᵥ a)) := by
  rw [bmat_mulVec, dotProduct_sub, dotProduct_smul, smul_eq_mul, dotProduct_mulVec, ← mulVec_transpose]

theorem bmat_zero {n k : Nat} (θ : K) (Wm : Matrix (Fin n) (Fin k) K) :
    bmat θ Wm (0 : Matrix (Fin k) (Fin k) K) = θ • (1 : Matrix (Fin n) (Fin n) K) := by
  rw [bmat, Matrix.mul_zero, Matrix.zero_mul, sub_zero]

theorem bmat_zero_mulVec {n k : Nat} (θ : K) (Wm : Matrix (Fin n) (Fin k) K) (a : Fin n → K) :
    bmat θ Wm (0 : Matrix (Fin k) (Fin k) K) *ᵥ a = θ • a := by
  rw [bmat_zero, smul_mulVec, one_mulVec]

theorem bmat_zero_quad {n k : Nat} (θ : K) (Wm : Matrix (Fin n) (Fin k) K) (a : Fin n → K) :
    a ⬝ᵥ (bmat θ Wm (0 : Matrix (Fin k) (Fin k) K) *ᵥ a) = θ * (a ⬝ᵥ a) := by
  rw [bmat_zero_mulVec, dotProduct_smul, smul_eq_mul]

theorem bmat_symm {n k : Nat} (θ : K) (Wm : Matrix (Fin n) (Fin k) K) (Mm : Matrix (Fin k) (Fin k) K)
    (hs : Mmᵀ = Mm) : (bmat θ Wm Mm)ᵀ = bmat θ Wm Mm := by
  unfold bmat
  rw [transpose_sub, transpose_smul, transpose_one, transpose_mul, transpose_mul, transpose_transpose, hs,
    Matrix.mul_assoc]

theorem qmodel_line {n : Nat} (G : Fin n → K) (B : Matrix (Fin n) (Fin n) K) (hB : Bᵀ = B)
    (Z D : Fin n → K) (τ : K) :
    qmodel G B (Z + τ • D) =
      qmodel G B Z + τ * (G ⬝ᵥ D + D ⬝ᵥ (B *ᵥ Z)) + (1 / 2) * τ * τ * (D ⬝ᵥ (B *ᵥ D)) := by
  simp only [qmodel, dotProduct_add, dotProduct_smul, mulVec_add, mulVec_smul, add_dotProduct, smul_dotProduct,
    smul_eq_mul, quad_symm B hB Z D]
  ring

end Lbfgsb
