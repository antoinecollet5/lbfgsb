/-
  Lemmas for C07: the state handed to the callback after iteration `k` is the result of a run
  with `maxiter = k`. Level U (no arithmetic law, no order law even: plain equational
  reasoning about the driver). `maxiter` occurs only in the loop guard, in the fuel and in the
  final classification; `iterBody`, `initEval`, `prepare` do not depend on it, by `rfl`.
-/
import LbfgsbVerif.Proofs.Walk

namespace Lbfgsb
variable {α ε δ : Type}
variable [Add α] [Sub α] [Mul α] [LT α] [DecidableLT α] [OfNat α 0]

theorem prepare_indep_maxiter (u : User α ε) (c : Cfg α) (k : Nat) (i : Init α) :
    prepare u { c with maxiter := k } i = prepare u c i := rfl

variable [OfNat α 1]

theorem initEval_indep_maxiter (u : User α ε) (c : Cfg α) (k : Nat) :
    initEval u { c with maxiter := k } = initEval u c := rfl

variable [Div α] [Neg α] [FloatLike α]

theorem iterBody_indep_maxiter (u : User α ε) (o : Oracles α δ) (c : Cfg α) (k : Nat) (s : St α) :
    iterBody u o { c with maxiter := k } s = iterBody u o c s := rfl

/-- the fields of a callback state / result that C07 compares -/
def SameSnapshot (a b : Result α) : Prop :=
  a.x = b.x ∧ a.f = b.f ∧ a.jac = b.jac ∧ a.nfev = b.nfev ∧ a.njev = b.njev ∧ a.nit = b.nit ∧
    a.sk = b.sk ∧ a.yk = b.yk

theorem iterBody_cbs {u : User α ε} {o : Oracles α δ} {c : Cfg α} {s s' : St α} {flow : Flow}
    (h : iterBody u o c s = .ok (s', flow)) :
    s'.cbStates = s.cbStates ∨
      ∃ cb, flow = .next ∧ s'.cbStates = s.cbStates ++ [cb] ∧ SameSnapshot cb s'.result := by
  -- abort | reset | step taken
  obtain ⟨sfL, stp?, olog, -, ⟨-, -, -, rfl⟩ | ⟨-, -, -, rfl⟩ |
    ⟨stp, x1, sf, f, g, s0, -, -, -, hs0, hrest⟩⟩ := iterBody_cases h
  · exact Or.inl rfl
  · exact Or.inl rfl
  · have h0 : s0.cbStates = s.cbStates := by
      rcases hs0 with ⟨-, rfl⟩ | ⟨-, r, -, rfl⟩
      · rfl
      · rfl
    rcases hrest with ⟨-, t, rfl, -⟩ | ⟨rfl, rfl | ⟨b, -, -, -, rfl⟩⟩
    · exact Or.inl h0
    · exact Or.inl h0
    · -- logging the call and obeying the answer touch none of the fields compared
      exact Or.inr ⟨_, rfl, congrArg (· ++ _) h0, rfl, rfl, rfl, rfl, rfl, rfl, rfl, rfl⟩

def NewCbOk (u : User α ε) (o : Oracles α δ) (c : Cfg α) (s0 : St α) (cb : Result α) : Prop :=
  ∃ sB, mainLoop u o { c with maxiter := cb.nit } (cb.nit - s0.nit) s0 = .ok sB ∧
    SameSnapshot cb sB.result

theorem mainLoop_cbs {u : User α ε} {o : Oracles α δ} {c : Cfg α} {fuel : Nat} {s0 s' : St α}
    (h : mainLoop u o c fuel s0 = .ok s') :
    ∀ cb ∈ s'.cbStates, cb ∈ s0.cbStates ∨ NewCbOk u o c s0 cb := by
  -- at a loop head `s`, the loop limited to any `k = s.nit + n` has come from `s0` to `s` as
  -- well, with `n` passes to go
  refine mainLoop_rule
    (I := fun s =>
      (∀ k n, k = s.nit + n → mainLoop u o { c with maxiter := k } (k - s0.nit) s0
        = mainLoop u o { c with maxiter := k } n s) ∧
      ∀ cb ∈ s.cbStates, cb ∈ s0.cbStates ∨ NewCbOk u o c s0 cb)
    (Q := fun s => ∀ cb ∈ s.cbStates, cb ∈ s0.cbStates ∨ NewCbOk u o c s0 cb)
    ?_ ?_ ?_ fuel s0 s'
    ⟨fun k n hk => by rw [hk, Nat.add_sub_cancel_left], fun _ hcb => Or.inl hcb⟩ h
  · intro s s1 hi hg hb
    have hn := iterBody_nit_next hb
    have reach : ∀ k n, k = s1.nit + n → mainLoop u o { c with maxiter := k } (k - s0.nit) s0
        = mainLoop u o { c with maxiter := k } n s1 := by
      intro k n hk
      rw [hi.1 k (n + 1) (by omega)]
      exact mainLoop_next n
        (guard_iff.2 ⟨(guard_iff.1 hg).1, (by omega : s.nit < k), (guard_iff.1 hg).2.2⟩)
        ((iterBody_indep_maxiter u o c k s).trans hb)
    refine ⟨reach, fun cb hcb => ?_⟩
    rcases iterBody_cbs hb with e | ⟨cb0, -, e, hsnap⟩
    · exact hi.2 cb (e ▸ hcb)
    · rw [e] at hcb
      rcases List.mem_append.1 hcb with hcb | hcb
      · exact hi.2 cb hcb
      · -- the state handed over in this very pass: the loop limited to `cb.nit` iterations
        -- performs the same pass and has no fuel left
        obtain rfl := List.mem_singleton.1 hcb
        exact Or.inr ⟨s1, reach cb.nit 0 hsnap.2.2.2.2.2.1, hsnap⟩
  · intro s s1 hi _ hb cb hcb
    rcases iterBody_cbs hb with e | ⟨_, hflow, -⟩
    · exact hi.2 cb (e ▸ hcb)
    · cases hflow
  · intro s hi
    exact hi.2

end Lbfgsb
