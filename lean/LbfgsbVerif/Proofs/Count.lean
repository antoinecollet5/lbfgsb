/-
  Counting in the call log. `countK k l` counts the entries of kind `k`. The fixed statements
  speak of `nF` and `nG` (objective and gradient entries); they are `countK .F`, `countK .G` by
  `rfl`, and `nF_eq`, `nG_eq` make `countK` the simp normal form. `CountedFrom n g sf`: the
  wrapper's `nfev` and `ngev` are `n` and `g` (two counts: what it started from — a restart
  inherits the checkpoint's) plus the logged calls; every wrapper operation keeps it. Last, what
  extending a log by calls of given kinds (`LoopCall`, `NotThresh`) does to a count.
-/
import LbfgsbVerif.Proofs.SF

namespace Lbfgsb
variable {α ε : Type}

def nF (l : List (Call α)) : Nat := (l.filter (fun c => c.kind = .F)).length
def nG (l : List (Call α)) : Nat := (l.filter (fun c => c.kind = .G)).length

def CountedFrom (n g : Nat) (s : SF α) : Prop :=
  s.nfev = n + nF s.log ∧ (s.mode = .callable → s.ngev = g + nG s.log)

def countK (k : CallKind) (l : List (Call α)) : Nat := (l.filter (fun c => c.kind = k)).length

@[simp] theorem nF_eq (l : List (Call α)) : nF l = countK .F l := rfl
@[simp] theorem nG_eq (l : List (Call α)) : nG l = countK .G l := rfl

@[simp] theorem countK_append (k : CallKind) (l d : List (Call α)) :
    countK k (l ++ d) = countK k l + countK k d := by
  simp [countK]

@[simp] theorem countK_singleton (k k' : CallKind) (a : Vec α) :
    countK k [Call.mk k' a] = if k' = k then 1 else 0 := by
  by_cases h : k' = k <;> simp [countK, h]

theorem countK_eq_zero {k : CallKind} {d : List (Call α)} (h : ∀ c ∈ d, c.kind ≠ k) :
    countK k d = 0 := by
  rw [countK, List.length_eq_zero_iff, List.filter_eq_nil_iff]
  exact fun c hc => by simpa using h c hc

@[simp] theorem countK_fcalls (k : CallKind) (ps : List (Vec α)) :
    countK k (fcalls ps) = if k = .F then ps.length else 0 := by
  by_cases h : k = .F
  · simp [countK, fcalls, List.filter_map, Function.comp_def, h]
  · rw [if_neg h]
    exact countK_eq_zero fun c hc => by
      obtain ⟨p, -, rfl⟩ := List.mem_map.1 hc
      exact fun e => h e.symm

@[simp] theorem nG_append_fcalls (l : List (Call α)) (ps : List (Vec α)) :
    nG (l ++ fcalls ps) = nG l := by
  simp

def NotThresh (c : Call α) : Prop := c.kind ≠ .ftarget ∧ c.kind ≠ .gtol

/-- the only calls the main loop logs -/
def LoopCall (c : Call α) : Prop :=
  c.kind = .F ∨ c.kind = .G ∨ c.kind = .update ∨ c.kind = .callback

theorem LoopCall.notThresh {c : Call α} (h : LoopCall c) : NotThresh c := by
  rcases h with h | h | h | h <;> simp [NotThresh, h]

theorem evalAt_loopCall {u : SFUser α ε} {m : GradMode} {x : Vec α} {c : Call α}
    (h : EvalAt u m x c) : LoopCall c := by
  rcases h.1 with h | h <;> simp [LoopCall, h]

theorem countK_ext_of (k : CallKind) {P : Call α → Prop} (hP : ∀ c, P c → c.kind ≠ k)
    {l l' : List (Call α)} (h : LogExt P l l') : countK k l' = countK k l := by
  obtain ⟨d, rfl, hd⟩ := h
  rw [countK_append, countK_eq_zero fun c hc => hP c (hd c hc), Nat.add_zero]

theorem countK_ext {l l' : List (Call α)} (h : LogExt NotThresh l l') :
    countK .ftarget l' = countK .ftarget l ∧ countK .gtol l' = countK .gtol l :=
  ⟨countK_ext_of .ftarget (fun _ hc => hc.1) h, countK_ext_of .gtol (fun _ hc => hc.2) h⟩

theorem CountedFrom.append {n g : Nat} {s : SF α} (hc : CountedFrom n g s) {d : List (Call α)}
    (hd : ∀ c ∈ d, c.kind ≠ .F ∧ c.kind ≠ .G) :
    CountedFrom n g { s with log := s.log ++ d } := by
  simpa [CountedFrom, countK_eq_zero fun c h => (hd c h).1,
    countK_eq_zero fun c h => (hd c h).2] using hc

theorem updFun_counted {n g : Nat} {u : SFUser α ε} {s s' : SF α} (hc : CountedFrom n g s)
    (h : s.updFun u = .ok s') : CountedFrom n g s' ∧ s'.mode = s.mode := by
  rcases updFun_ok.1 h with ⟨-, rfl⟩ | ⟨-, v, -, rfl⟩
  · exact ⟨hc, rfl⟩
  · exact ⟨⟨by simp [hc.1, Nat.add_assoc], fun hm => by simp [hc.2 hm]⟩, rfl⟩

section
variable [LT α] [DecidableLT α]

theorem updateX_counted {n g : Nat} {s : SF α} (hc : CountedFrom n g s) (x : Vec α) :
    CountedFrom n g (s.updateX x) := by
  unfold SF.updateX
  split
  · exact hc
  · exact ⟨hc.1, hc.2⟩

theorem funv_counted [Mul α] {n g : Nat} {u : SFUser α ε} {s s' : SF α} {x : Vec α} {f : α}
    (hc : CountedFrom n g s) (h : s.funv u x = .ok (s', f)) : CountedFrom n g s' := by
  exact (updFun_counted (updateX_counted hc x) (funv_ok.1 h).1).1

variable [OfNat α 0]

theorem updGrad_counted {n g : Nat} {u : SFUser α ε} {s s' : SF α} (hc : CountedFrom n g s)
    (h : s.updGrad u = .ok s') : CountedFrom n g s' ∧ s'.mode = s.mode := by
  rcases updGrad_ok h with ⟨-, rfl⟩ | ⟨-, hm, g', -, rfl⟩ | ⟨-, hm, s1, vs, h1, -, rfl⟩
  · exact ⟨hc, rfl⟩
  · exact ⟨⟨by simp [hc.1], fun _ => by simp [hc.2 hm, Nat.add_assoc]⟩, rfl⟩
  · obtain ⟨hc1, hm1⟩ := updFun_counted hc h1
    exact ⟨⟨by simp [hc1.1, Nat.add_assoc], fun hmm => by simp [hm1, hm] at hmm⟩, hm1⟩

variable [Mul α]

theorem gradv_counted {n g : Nat} {u : SFUser α ε} {s s' : SF α} {x : Vec α} {gr : Vec α}
    (hc : CountedFrom n g s) (h : s.gradv u x = .ok (s', gr)) : CountedFrom n g s' := by
  exact (updGrad_counted (updateX_counted hc x) (gradv_ok h).1).1

theorem funAndGrad_counted {n g : Nat} {u : SFUser α ε} {s s' : SF α} {x : Vec α} {f : α}
    {gr : Vec α} (hc : CountedFrom n g s) (h : s.funAndGrad u x = .ok (s', f, gr)) :
    CountedFrom n g s' := by
  obtain ⟨s1, h1, h2, -⟩ := funAndGrad_ok h
  exact (updGrad_counted (updFun_counted (updateX_counted hc x) h1).1 h2).1

end
end Lbfgsb
