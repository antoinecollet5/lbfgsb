/-
  Invariants of the shell used by the C02 theorems (every evaluated / reported / returned
  point is inside the box). Level U: the only fact about numbers that is used is that the
  bounds are ordered (`lb ≤ ub`) and comparisons form a linear order — no arithmetic law, so
  the statements hold for the rounded floating-point operations the implementation performs.
-/
import LbfgsbVerif.Proofs.C04

namespace Lbfgsb
variable {α ε δ : Type}
variable [LinearOrder α]

/-- hypotheses under which C02 is stated -/
structure Ctx2 (u : User α ε) (o : Oracles α δ) (c : Cfg α) : Prop where
  /-- `get_bounds` accepted the box: same length, `lb ≤ ub` -/
  box : BoxOk c.lb c.ub
  n : c.x0.length = c.lb.length
  /-- the kernels return a vector of the size of `x` (for a feasible `x`, the only ones they are called with) -/
  xbar_len : ∀ x g m, InBox c.lb c.ub x → (o.xbar x g m).length = x.length
  /-- contract of the differencing routine -/
  stencil : ∀ x f, InBox c.lb c.ub x → ∀ p ∈ u.fdPts x f, InBox c.lb c.ub p
  /-- `initialize_X_and_G` accepted the checkpoint: its point is the (clipped) start -/
  ck_x : ∀ ck, c.checkpoint = some ck → ck.x = clip c.x0 c.lb c.ub

/-- a logged call is harmless for C02 if it carries no point (threshold callables) or its
point is in the box -/
def PointOk (c : Cfg α) (call : Call α) : Prop :=
  call.kind = .ftarget ∨ call.kind = .gtol ∨ InBox c.lb c.ub call.arg

structure BoxInv (c : Cfg α) (s : St α) : Prop where
  x_in : InBox c.lb c.ub s.x
  log : ∀ call ∈ s.sf.log, PointOk c call
  cbs : ∀ cb ∈ s.cbStates, InBox c.lb c.ub cb.x

theorem trial_inBox [Add α] [Sub α] [Mul α] {lb ub : Vec α} (hb : BoxOk lb ub) (x0 d : Vec α)
    (stp : α) (hx : x0.length = lb.length) (hd : d.length = x0.length) :
    InBox lb ub (trial x0 d lb ub stp) := by
  unfold trial
  apply clip_inBox hb
  simp [smul, hd, hx]

theorem evalAt_pointOk {u : User α ε} {o : Oracles α δ} {c : Cfg α} (hctx : Ctx2 u o c)
    {m : GradMode} {p : Vec α} (hp : InBox c.lb c.ub p) {call : Call α}
    (h : EvalAt u.toSFUser m p call) : PointOk c call := by
  rcases h.2 with h | ⟨-, f, hf⟩
  · exact Or.inr (Or.inr (h ▸ hp))
  · exact Or.inr (Or.inr (hctx.stencil p f hp _ hf))

theorem clip_x0_inBox [OfNat α 0] {u : User α ε} {o : Oracles α δ} {c : Cfg α} (hctx : Ctx2 u o c) :
    InBox c.lb c.ub (clip c.x0 c.lb c.ub) :=
  clip_inBox hctx.box _ hctx.n

theorem BoxInv.logCall {c : Cfg α} {s : St α} (hi : BoxInv c s) (k : CallKind) :
    ∀ call ∈ (s.logCall k s.x).sf.log, PointOk c call :=
  (LogExt.single _ _ (Or.inr (Or.inr hi.x_in))).all hi.log

section
variable [Add α] [Sub α] [Mul α] [OfNat α 0]

theorem initEval_pointOk [OfNat α 1] {u : User α ε} {o : Oracles α δ} {c : Cfg α}
    (hctx : Ctx2 u o c) {i : Init α} (h : initEval u c = .ok i) :
    i.x = clip c.x0 c.lb c.ub ∧ ∀ call ∈ i.sf.log, PointOk c call := by
  obtain ⟨-, -, -, -, -, hx⟩ := initEval_eq h
  refine ⟨hx, fun call hc => ?_⟩
  rcases initEval_log h call hc with h' | h' | h'
  · exact evalAt_pointOk hctx (clip_x0_inBox hctx) h'
  · exact Or.inl h'
  · exact Or.inr (Or.inl h')

theorem prepare_boxInv {u : User α ε} {o : Oracles α δ} {c : Cfg α} (hctx : Ctx2 u o c) {i : Init α}
    {s : St α} (hx : i.x = clip c.x0 c.lb c.ub) (hl : ∀ call ∈ i.sf.log, PointOk c call)
    (hc : Coh u.toSFUser i.sf) (h : prepare u c i = .ok s) : BoxInv c s := by
  have hx0 : InBox c.lb c.ub i.x := hx ▸ clip_x0_inBox hctx
  obtain ⟨sf, g, sc, d, f', g', X, G, m, he, rfl, hd, -⟩ := prepare_eq h
  have hE : ∀ call ∈ sf.log, PointOk c call := by
    rcases firstGrad_ok he with ⟨-, he⟩ | ⟨ck, -, rfl, -⟩
    · obtain ⟨es, -⟩ := gradv_sum hc he
      exact (es.log.mono fun _ hc' => evalAt_pointOk hctx hx0 hc').all hl
    · exact hl
  exact ⟨hx0, fun call hc => (List.mem_append.1 hc).elim (hE call) fun h' =>
    Or.inr (Or.inr ((hd call h').2 ▸ hx0)), by simp [Init.state]⟩

end

variable [Add α] [Sub α] [Mul α] [Div α] [Neg α] [OfNat α 0] [OfNat α 1] [FloatLike α]

theorem iterBody_boxInv {u : User α ε} {o : Oracles α δ} {c : Cfg α} (hctx : Ctx2 u o c)
    {s s' : St α} {flow : Flow} (hi : BoxInv c s) (hcoh : Coh u.toSFUser s.sf)
    (h : iterBody u o c s = .ok (s', flow)) : BoxInv c s' := by
  have hd : (vsub (o.xbar s.x s.g s.mats) s.x).length = s.x.length := by
    simp [hctx.xbar_len _ _ _ hi.x_in]
  have hx' := fun stp => trial_inBox hctx.box s.x (vsub (o.xbar s.x s.g s.mats) s.x) stp
    (inBox_length hi.x_in).1.symm hd
  refine iterBody_rule h ?ls ?move ?upd ?flags ?reset ?mem ?cb ?nit
  case ls =>
    -- the line search evaluates at trial points only
    intro sfL stp? olog hl
    have ls := lineSearch_sum hcoh hl
    exact ⟨hi.x_in, (ls.log.mono fun call ⟨stp, hc⟩ => evalAt_pointOk hctx (hx' stp) hc).all hi.log,
      hi.cbs⟩
  case move =>
    intro sfL stp olog sf f g hl he iL
    have ls := lineSearch_sum hcoh hl
    obtain ⟨es, -, -⟩ := funAndGrad_sum ls.coh he
    exact ⟨hx' stp, (es.log.mono fun _ hc => evalAt_pointOk hctx (hx' stp) hc).all iL.log, hi.cbs⟩
  case upd => exact fun t _ r _ _ it => ⟨it.x_in, it.logCall .update, it.cbs⟩
  case flags => exact fun t _ _ _ it => { it with }
  case reset => exact fun t it => { it with }
  case mem => exact fun t it => { it with }
  case cb =>
    -- the state handed over is the current one
    exact fun t _ _ _ _ it => ⟨it.x_in, it.logCall .callback,
      List.forall_mem_append.2 ⟨it.cbs, List.forall_mem_singleton.2 it.x_in⟩⟩
  case nit => exact fun t it => { it with }

end Lbfgsb
