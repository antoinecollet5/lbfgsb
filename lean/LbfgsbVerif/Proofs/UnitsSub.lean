/-
  Transport of the subspace point along a change of variables (`subspaceMin_map`), and what the change of units needs besides: the
  masked Newton step is determined by its specification when the model is positive definite (`masked_newton_unique`,
  Props/C09Model), and `newton_residual_units`.
-/
import LbfgsbVerif.Proofs.Units
import LbfgsbVerif.Proofs.SubspaceBridge

namespace Lbfgsb.Units
open Lbfgsb Matrix
variable {K : Type} [Field K] [LinearOrder K] [IsStrictOrderedRing K]

theorem smul_smul' (a b : K) (v : Vec K) : smul a (smul b v) = smul (a * b) v :=
  smul_smul_vec a b v

theorem newton_residual_units {n : Nat} (a b : K) (hb : b ≠ 0) (B : Matrix (Fin n) (Fin n) K) (g δ D : Fin n → K) :
    (a / b) • g + ((a / (b * b)) • B) *ᵥ (b • δ + D) = (a / b) • (g + B *ᵥ (δ + b⁻¹ • D)) := by
  have e : b • δ + D = b • (δ + b⁻¹ • D) := by rw [smul_add, smul_smul, mul_inv_cancel₀ hb, one_smul]
  rw [e, smul_mulVec, mulVec_smul, smul_smul, smul_add, div_mul_eq_mul_div, mul_div_mul_right _ _ hb]

theorem subMask_map {φ : K → K} (hφ : StrictMono φ) (i i' : SubIn K)
    (hxc : i'.xc = i.xc.map φ) (hlb : i'.lb = i.lb.map φ) (hub : i'.ub = i.ub.map φ) : subMask i' = subMask i := by
  rw [subMask, hxc, hlb, hub, freeMask_map hφ, subMask]

attribute [local instance] fieldFloatLike in
theorem subspaceMin_map {φ ψ : K → K} (hφ : StrictMono φ) (h : RatioInv φ ψ)
    (hadd : ∀ x a t : K, φ x + a * ψ t = φ (x + a * t)) (i i' : SubIn K)
    (hxc : i'.xc = i.xc.map φ) (hlb : i'.lb = i.lb.map φ) (hub : i'.ub = i.ub.map φ)
    (hD : subD i' = (subD i).map ψ) : subspaceMin i' = (subspaceMin i).map φ := by
  have hv : ∀ al : K, vadd (i.xc.map φ) (smul al ((subD i).map ψ)) = (vadd i.xc (smul al (subD i))).map φ := by
    intro al
    simp only [vadd, smul, vzip_eq_zipWith, List.zipWith_map_left, List.zipWith_map_right, List.map_zipWith, hadd]
  rw [subspaceMin_eq, subspaceMin_eq, subMask_map hφ i i' hxc hlb hub, hD, hxc, hlb, hub, alphaStar_map h, hv, clip_map hφ, apply_ite (List.map φ)]

end Lbfgsb.Units
