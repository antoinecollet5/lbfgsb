/-
  Change of units for the kernel inputs built from a stored history: differences, scale `θ`, pairs and gradient padding of the history
  in other units (`X → b X`, `G → (a/b) G`).
-/
import LbfgsbVerif.Proofs.CompactKernel
import LbfgsbVerif.Props.C10Units

namespace Lbfgsb.Units
open Lbfgsb Matrix CompactKernel
variable {K : Type} [Field K] [LinearOrder K] [IsStrictOrderedRing K]

theorem diffs_map_smul (c : K) (X : List (Vec K)) : diffs (X.map (smul c)) = (diffs X).map (smul c) := by
  induction X with
  | nil => rfl
  | cons a rest ih =>
    cases rest with
    | nil => rfl
    | cons b rest' =>
      simp only [List.map_cons, diffs] at ih ⊢
      rw [vsub_smul, ih]

theorem fitTo_smul (b c : K) (x g : Vec K) : fitTo (smul b x) (smul c g) = smul c (fitTo x g) := by
  unfold fitTo
  simp only [smul_length, getD_smul]
  exact (List.map_map ..).symm

theorem getD_map_smul (c : K) (L : List (Vec K)) (j : Nat) : (L.map (smul c)).getD j [] = smul c (L.getD j []) := by
  simp only [List.getD_eq_getElem?_getD, List.getElem?_map]
  cases L[j]? <;> simp [smul]

theorem pairsOf_units (n : Nat) (b c : K) (S Y : List (Vec K)) :
    pairsOf n (S.map (smul b)) (Y.map (smul c)) = (pairsOf n S Y).map fun p => (b • p.1, c • p.2) := by
  unfold pairsOf
  rw [List.zip_map, List.map_map, List.map_map]
  apply List.map_congr_left
  intro p _
  simp only [Function.comp, Prod.map, vec_smul]

theorem thetaOf_units (a b : K) (ha : a ≠ 0) (hb : b ≠ 0) (X G : List (Vec K)) (hX : X.length > 1) (hXG : X.length = G.length) :
    thetaOf (X.map (smul b)) (G.map (smul (a / b))) = a / (b * b) * thetaOf X G := by
  have hs : diffs X ≠ [] := List.ne_nil_of_length_pos (diffs_length X ▸ Nat.sub_pos_of_lt hX)
  have hy : diffs G ≠ [] := List.ne_nil_of_length_pos (diffs_length G ▸ Nat.sub_pos_of_lt (hXG ▸ hX))
  have hc : a / b ≠ 0 := div_ne_zero ha hb
  unfold thetaOf
  rw [diffs_map_smul, diffs_map_smul, List.getLast?_map, List.getLast?_map, List.getLast?_eq_some_getLast hs,
    List.getLast?_eq_some_getLast hy]
  simp only [Option.map_some]
  rw [dot_smul_smul, dot_smul_smul, mul_assoc (a / b), mul_comm b, mul_assoc (a / b) b, mul_div_mul_left _ _ hc,
    mul_div_mul_comm, div_div]

theorem historyChain_units (a b : K) (ha : a ≠ 0) (hb : b ≠ 0) (n : Nat) (X G : List (Vec K)) (hX : X.length > 1)
    (hXG : X.length = G.length) :
    C10.bfgsChain ((thetaOf (X.map (smul b)) (G.map (smul (a / b)))) • (1 : Matrix (Fin n) (Fin n) K))
        (pairsOf n (diffs (X.map (smul b))) (diffs (G.map (smul (a / b))))) =
      (a / (b * b)) • C10.bfgsChain ((thetaOf X G) • (1 : Matrix (Fin n) (Fin n) K)) (pairsOf n (diffs X) (diffs G)) := by
  rw [thetaOf_units a b ha hb X G hX hXG, diffs_map_smul, diffs_map_smul, pairsOf_units, C10.bfgsChain_theta_units a b (thetaOf X G) ha hb]

end Lbfgsb.Units
