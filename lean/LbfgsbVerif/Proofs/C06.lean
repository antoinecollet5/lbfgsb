/-
  The list library of the memory: `AllLen`, `lastD_*`, `diffs_*`, `pushBounded_*`, the two equations of
  `updateMats` and of the driver's `memStep`, the accepted step as a drop of `k` entries (`memStep_push`).
  And C06 (restart restores the curvature memory): which
  entries are kept is a fact on lists (`restart_deques`); that their differences are the stored pairs is
  level F: exact arithmetic in a commutative additive group (the property says "up to rounding": in
  floating point the reconstruction `x - Σ s` is not exact; the correspondence check replays `restoreXG`
  bit for bit instead).
-/
import LbfgsbVerif.Model.Shell
import LbfgsbVerif.Proofs.Basic
import Mathlib.Tactic.Abel

namespace Lbfgsb
variable {α : Type}

def AllLen (n : Nat) (l : List (Vec α)) : Prop := ∀ v ∈ l, v.length = n

theorem allLen_nil (n : Nat) : AllLen n ([] : List (Vec α)) := fun _ h => absurd h List.not_mem_nil

theorem allLen_cons {n : Nat} {a : Vec α} {l : List (Vec α)} : AllLen n (a :: l) ↔ a.length = n ∧ AllLen n l :=
  List.forall_mem_cons

theorem allLen_drop {n : Nat} {l : List (Vec α)} (h : AllLen n l) (k : Nat) : AllLen n (l.drop k) :=
  fun v hv => h v (List.mem_of_mem_drop hv)

theorem allLen_append_one {n : Nat} {l : List (Vec α)} {v : Vec α} (h : AllLen n l) (hv : v.length = n) :
    AllLen n (l ++ [v]) := by
  intro w hw
  rcases List.mem_append.mp hw with hw | hw
  · exact h w hw
  · rw [List.mem_singleton.1 hw]
    exact hv

theorem ne_nil_of_length_eq {β γ : Type} {l : List β} {l' : List γ} (hl : l.length = l'.length) (h : l ≠ []) :
    l' ≠ [] :=
  fun e => h (List.length_eq_zero_iff.1 (hl.trans (congrArg List.length e)))

theorem lastD_eq_getElem (l : List (Vec α)) (h : l ≠ []) :
    lastD l = l[l.length - 1]'(Nat.sub_lt (List.length_pos_iff.2 h) Nat.one_pos) := by
  rw [lastD, List.getLastD_eq_getLast?, List.getLast?_eq_getElem?,
    List.getElem?_eq_getElem (Nat.sub_lt (List.length_pos_iff.2 h) Nat.one_pos)]
  rfl

theorem lastD_mem (l : List (Vec α)) (h : l ≠ []) : lastD l ∈ l :=
  lastD_eq_getElem l h ▸ List.getElem_mem _

theorem lastD_append_one (l : List (Vec α)) (v : Vec α) : lastD (l ++ [v]) = v := by
  simp [lastD]

theorem lastD_drop (l : List (Vec α)) (k : Nat) (h : k < l.length) : lastD (l.drop k) = lastD l := by
  unfold lastD
  rw [List.getLastD_eq_getLast?, List.getLastD_eq_getLast?, List.getLast?_drop, if_neg (Nat.not_le.2 h)]

theorem lastD_zip_mem (X G : List (Vec α)) (hl : X.length = G.length) (hne : X ≠ []) :
    (lastD X, lastD G) ∈ X.zip G := by
  have hn : X.length - 1 < (X.zip G).length := by
    rw [List.length_zip, ← hl, Nat.min_self]
    exact Nat.sub_lt (List.length_pos_iff.2 hne) Nat.one_pos
  have h := List.getElem_mem hn
  rw [List.getElem_zip] at h
  rw [lastD_eq_getElem X hne, lastD_eq_getElem G (ne_nil_of_length_eq hl hne)]
  simp only [← hl]
  exact h

theorem diffs_drop [Sub α] (l : List (Vec α)) (k : Nat) : diffs (l.drop k) = (diffs l).drop k := by
  induction k generalizing l with
  | zero => simp
  | succ k ih =>
    cases l with
    | nil => simp [diffs]
    | cons a rest =>
      cases rest with
      | nil => simp [diffs]
      | cons b rest' =>
        simp only [List.drop_succ_cons, diffs]
        exact ih (b :: rest')

theorem diffs_allLen [Sub α] (n : Nat) (P : List (Vec α)) (h : AllLen n P) : AllLen n (diffs P) := by
  fun_induction diffs P with
  | case1 a b rest ih =>
    obtain ⟨la, h'⟩ := List.forall_mem_cons.1 h
    have lb : b.length = n := h' b (List.mem_cons_self ..)
    refine List.forall_mem_cons.2 ⟨?_, ih h'⟩
    rw [vsub_length, lb, la, Nat.min_self]
  | case2 P _ => exact fun _ hv => nomatch hv

theorem diffs_length [Sub α] (l : List (Vec α)) : (diffs l).length = l.length - 1 := by
  induction l with
  | nil => simp [diffs]
  | cons a rest ih =>
    cases rest with
    | nil => simp [diffs]
    | cons b rest' =>
      simp only [diffs, List.length_cons] at ih ⊢
      omega

theorem pushBounded_eq (mc : Nat) (l acc : List (Vec α)) (h : acc.length ≤ mc + 1) :
    pushBounded mc acc l = (acc ++ l).drop ((acc ++ l).length - (mc + 1)) := by
  induction l generalizing acc with
  | nil => rw [pushBounded, List.append_nil, Nat.sub_eq_zero_of_le h, List.drop_zero]
  | cons p ps ih =>
    rw [pushBounded]
    split
    · rename_i hgt
      have hlen : (acc.drop 1 ++ [p]).length ≤ mc + 1 := by
        rw [List.length_append, List.length_drop, List.length_singleton]
        omega
      rw [ih _ hlen, List.append_assoc, List.singleton_append,
        ← List.drop_append_of_le_length (by omega : 1 ≤ acc.length), List.drop_drop,
        List.length_drop]
      congr 1
      rw [List.length_append, List.length_cons]
      omega
    · have hlen : (acc ++ [p]).length ≤ mc + 1 := by
        rw [List.length_append, List.length_singleton]
        omega
      rw [ih _ hlen, List.append_assoc, List.singleton_append]

theorem pushBounded_nil (mc : Nat) (l : List (Vec α)) :
    pushBounded mc [] l = l.drop (l.length - (mc + 1)) :=
  pushBounded_eq mc l [] (Nat.zero_le _)

theorem drop_append_trim {β : Type} (l : List β) (p : β) (m n : Nat) (hn : l.length = n) :
    (l.drop (n - (m + 1)) ++ [p]).drop (if m < (l.drop (n - (m + 1))).length then 1 else 0) =
      (l ++ [p]).drop (n - m) := by
  subst hn
  rw [← List.drop_append_of_le_length (Nat.sub_le _ _), List.drop_drop, List.length_drop]
  congr 1
  split <;> omega

section
variable [Add α]

theorem revCumsum_cons (a : Vec α) (rest : List (Vec α)) :
    revCumsum (a :: rest) = ((revCumsum rest).head?.elim a (vadd · a)) :: revCumsum rest := by
  rw [revCumsum]
  cases revCumsum rest with
  | nil => rfl
  | cons c cs => rfl

theorem revCumsum_length (l : List (Vec α)) : (revCumsum l).length = l.length := by
  induction l with
  | nil => rfl
  | cons a rest ih => rw [revCumsum_cons, List.length_cons, ih, List.length_cons]

variable [Sub α]

theorem restoreXG_of_ne_nil (x jac : Vec α) {sk : List (Vec α)} (yk : List (Vec α)) (maxcor : Nat)
    (hne : sk ≠ []) :
    restoreXG x jac sk yk maxcor =
      (((revCumsum sk).map (vsub x ·)).drop (sk.length - (maxcor + 1)),
       ((revCumsum yk).map (vsub jac ·)).drop (yk.length - (maxcor + 1))) := by
  rw [restoreXG, if_neg (by simpa using hne), pushBounded_nil, pushBounded_nil]
  simp only [List.length_map, revCumsum_length]

variable [Mul α] [LT α] [DecidableLT α] [OfNat α 0]

theorem updateMats_reject (xk gk : Vec α) (X G : List (Vec α)) (mc : Nat) (mats : Mats α) (eps : α)
    (h : curvOk xk gk (lastD X) (lastD G) eps = false) :
    updateMats xk gk X G mc mats eps = (X, G, mats, false) := by
  rw [updateMats, h]
  rfl

/-- `drop k` with `k ∈ {0, 1}` keeps both cases in one shape: the `drop` lemmas apply without a case split -/
theorem updateMats_accept (xk gk : Vec α) (X G : List (Vec α)) (mc : Nat) (mats : Mats α) (eps : α)
    (h : curvOk xk gk (lastD X) (lastD G) eps = true) :
    updateMats xk gk X G mc mats eps =
      let k := if mc < X.length then 1 else 0
      ((X ++ [xk]).drop k, (G ++ [gk]).drop k, some ((X ++ [xk]).drop k, (G ++ [gk]).drop k), true) := by
  rw [updateMats, if_pos h]
  simp only [List.length_append, List.length_singleton, gt_iff_lt, Nat.add_lt_add_iff_right]
  split <;> rfl

theorem memStep_reject (c : Cfg α) (s : St α)
    (h : curvOk s.x s.g (lastD s.X) (lastD s.G) c.epsSY = false) :
    memStep c s = { s with mats := if c.hasUpdate then (if s.X.length > 1 then some (s.X, s.G) else none)
                                   else s.mats } := by
  rw [memStep, updateMats_reject _ _ _ _ _ _ _ h]
  rfl

theorem memStep_accept (c : Cfg α) (s : St α)
    (h : curvOk s.x s.g (lastD s.X) (lastD s.G) c.epsSY = true) :
    memStep c s =
      let k := if c.maxcor < s.X.length then 1 else 0
      { s with X := (s.X ++ [s.x]).drop k, G := (s.G ++ [s.g]).drop k,
               mats := some ((s.X ++ [s.x]).drop k, (s.G ++ [s.g]).drop k) } := by
  rw [memStep, updateMats_accept _ _ _ _ _ _ _ h]
  rfl

/-- the memory step with an accepted pair: `k` points are dropped, none, or one when the deque is full, and then
`maxcor ≥ 1` others stay; the new pair is tested against the last point that stays -/
theorem memStep_push (c : Cfg α) (s : St α) (hm : 1 ≤ c.maxcor) (hl : s.X.length = s.G.length) (hp : s.X ≠ [])
    (hk : curvOk s.x s.g (lastD s.X) (lastD s.G) c.epsSY = true) :
    ∃ k, s.X.drop k ≠ [] ∧ (s.X.length ≤ c.maxcor + 1 → s.X.length - k ≤ c.maxcor) ∧
      (s.X.drop k).length = (s.G.drop k).length ∧
      curvOk s.x s.g (lastD (s.X.drop k)) (lastD (s.G.drop k)) c.epsSY = true ∧
      memStep c s = { s with X := s.X.drop k ++ [s.x], G := s.G.drop k ++ [s.g],
                             mats := if (s.X.drop k ++ [s.x]).length > 1 then
                               some (s.X.drop k ++ [s.x], s.G.drop k ++ [s.g]) else none } := by
  have hp' := List.length_pos_iff.2 hp
  obtain ⟨k, hk1, hkb, e⟩ : ∃ k, k < s.X.length ∧ (s.X.length ≤ c.maxcor + 1 → s.X.length - k ≤ c.maxcor) ∧
      memStep c s = { s with X := s.X.drop k ++ [s.x], G := s.G.drop k ++ [s.g],
                             mats := some (s.X.drop k ++ [s.x], s.G.drop k ++ [s.g]) } := by
    have e := memStep_accept c s hk
    by_cases hfull : c.maxcor < s.X.length
    · rw [if_pos hfull] at e
      refine ⟨1, Nat.lt_of_le_of_lt hm hfull, Nat.sub_le_of_le_add, ?_⟩
      rw [e, ← List.drop_append_of_le_length hp', ← List.drop_append_of_le_length (hl ▸ hp')]
    · rw [if_neg hfull] at e
      exact ⟨0, hp', fun _ => Nat.le_of_not_lt hfull, e⟩
  have hpos : 0 < (s.X.drop k).length := List.length_drop ▸ Nat.sub_pos_of_lt hk1
  have hlong : (s.X.drop k ++ [s.x]).length > 1 := by
    rw [List.length_append]
    exact Nat.succ_lt_succ hpos
  refine ⟨k, List.ne_nil_of_length_pos hpos, hkb, by rw [List.length_drop, List.length_drop, hl], ?_,
    by rw [e, if_pos hlong]⟩
  rw [lastD_drop _ _ hk1, lastD_drop _ _ (hl ▸ hk1)]
  exact hk

theorem restart_deques (x jac : Vec α) (sk yk : List (Vec α)) (maxcor : Nat) (eps : α)
    (hlen : sk.length = yk.length) (hne : sk ≠ [])
    (hcurv : curvOk x jac (lastD (restoreXG x jac sk yk maxcor).1)
      (lastD (restoreXG x jac sk yk maxcor).2) eps = true) :
    let r := restoreXG x jac sk yk maxcor
    let m := updateMats x jac r.1 r.2 maxcor none eps
    m.1 = ((revCumsum sk).map (vsub x ·) ++ [x]).drop (sk.length - maxcor) ∧
      m.2.1 = ((revCumsum yk).map (vsub jac ·) ++ [jac]).drop (yk.length - maxcor) ∧
      m.2.2.1 = some (m.1, m.2.1) ∧ m.2.2.2 = true := by
  intro r m
  have hm : m = _ := updateMats_accept x jac r.1 r.2 maxcor none eps hcurv
  have hr : r = _ := restoreXG_of_ne_nil x jac yk maxcor hne
  have hsame : r.1.length = r.2.length := by
    simp only [hr, List.length_drop, List.length_map, revCumsum_length, hlen]
  rw [hm]
  refine ⟨?_, ?_, rfl, rfl⟩
  · dsimp only
    rw [hr]
    exact drop_append_trim _ x maxcor sk.length (by rw [List.length_map, revCumsum_length])
  · dsimp only
    rw [hsame, hr]
    exact drop_append_trim _ jac maxcor yk.length (by rw [List.length_map, revCumsum_length])

end
end Lbfgsb

namespace Lbfgsb
variable {α : Type} [AddCommGroup α]

theorem vsub_self_sub (x c : Vec α) (h : c.length = x.length) : vsub x (vsub x c) = c := by
  induction x generalizing c with
  | nil =>
    obtain rfl := List.eq_nil_of_length_eq_zero h
    rfl
  | cons a as ih =>
    obtain ⟨b, bs, rfl⟩ := List.exists_cons_of_length_eq_add_one h
    rw [vsub_cons, vsub_cons, sub_sub_cancel, ih bs (Nat.succ.inj h)]

theorem vsub_vsub_cancel (x a s : Vec α) (h1 : a.length = x.length) (h2 : s.length = x.length) :
    vsub (vsub x a) (vsub x (vadd a s)) = s := by
  induction x generalizing a s with
  | nil =>
    obtain rfl := List.eq_nil_of_length_eq_zero h1
    obtain rfl := List.eq_nil_of_length_eq_zero h2
    rfl
  | cons p ps ih =>
    obtain ⟨b, bs, rfl⟩ := List.exists_cons_of_length_eq_add_one h1
    obtain ⟨t, ts, rfl⟩ := List.exists_cons_of_length_eq_add_one h2
    rw [vadd_cons, vsub_cons, vsub_cons, vsub_cons, sub_sub_sub_cancel_left, add_sub_cancel_left,
      ih bs ts (Nat.succ.inj h1) (Nat.succ.inj h2)]

theorem revCumsum_allLen (n : Nat) (l : List (Vec α)) (h : AllLen n l) : AllLen n (revCumsum l) := by
  induction l with
  | nil => simp [revCumsum, AllLen]
  | cons a rest ih =>
    obtain ⟨ha, hr⟩ := allLen_cons.1 h
    have ihr := ih hr
    rw [revCumsum_cons]
    intro v hv
    rcases List.mem_cons.1 hv with rfl | hv
    · cases hc : revCumsum rest with
      | nil => exact ha
      | cons c cs =>
        have hcl : c.length = n := (allLen_cons.1 (hc ▸ ihr)).1
        simp only [List.head?_cons, Option.elim_some, vadd]
        rw [vzip_length, hcl, ha, Nat.min_self]
    · exact ihr v hv

/-- **telescoping**: the differences of the reconstructed history followed by the current
point are the stored pairs, in chronological order. -/
theorem diffs_restore (x : Vec α) (sk : List (Vec α)) (h : AllLen x.length sk) :
    diffs ((revCumsum sk).map (vsub x ·) ++ [x]) = sk := by
  induction sk with
  | nil => simp [revCumsum, diffs]
  | cons a rest ih =>
    obtain ⟨ha, hr⟩ := allLen_cons.1 h
    have ihr := ih hr
    rw [revCumsum_cons]
    cases hc : revCumsum rest with
    | nil =>
      obtain rfl : rest = [] := List.length_eq_zero_iff.1 (by rw [← revCumsum_length, hc, List.length_nil])
      simp [diffs, vsub_self_sub x a ha]
    | cons c cs =>
      rw [hc] at ihr
      have hcl : c.length = x.length := (allLen_cons.1 (hc ▸ revCumsum_allLen x.length rest hr)).1
      simp only [List.head?_cons, Option.elim_some, List.map_cons, List.cons_append, diffs] at ihr ⊢
      rw [vsub_vsub_cancel x c a hcl ha, ihr]

end Lbfgsb
