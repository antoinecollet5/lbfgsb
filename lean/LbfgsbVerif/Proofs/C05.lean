/-
  Invariants of the shell used by the C05 theorems: `fun`/`jac` belong to `x`, counters equal
  the calls made. Level U, with one IEEE-exact law as an explicit hypothesis where needed:
  `a * 1 = a`.
-/
import LbfgsbVerif.Proofs.C04

namespace Lbfgsb
variable {α ε δ : Type}

variable [LinearOrder α] [Add α] [Sub α] [Mul α] [OfNat α 0] [OfNat α 1]

/-- what C05 (1), (2) say of a triple `(x, f, g)` — the result's, a callback state's — for the
scaling factor `sc` -/
def CohAt (u : User α ε) (c : Cfg α) (sc : α) (x : Vec α) (f : α) (g : Vec α) : Prop :=
  (∃ v, u.F x = .ok v ∧ f = v * sc) ∧
  (∃ g0, gradSpec u.toSFUser c.lb c.ub c.mode x = .ok g0 ∧ g = vscale g0 sc)

structure Inv5 (u : User α ε) (c : Cfg α) (sc : α) (n g : Nat) (s : St α) : Prop where
  lb_eq : s.sf.lb = c.lb
  ub_eq : s.sf.ub = c.ub
  mode_eq : s.sf.mode = c.mode
  scale_eq : s.sf.scale = sc
  coh : Coh u.toSFUser s.sf
  at_x : CohAt u c sc s.x s.f s.g
  counted : CountedFrom n g s.sf
  cbs : ∀ cb ∈ s.cbStates, CohAt u c sc cb.x cb.f cb.jac

def cnt0 (c : Cfg α) : Nat × Nat :=
  match c.checkpoint with | none => (0, 0) | some ck => (ck.nfev, ck.njev)

/-- a checkpoint that C05 accepts: produced without scaling (a scaled checkpoint together with
a scaler is the recorded finding K1), coherent, at the clipped start -/
def CkOk (u : User α ε) (c : Cfg α) : Prop :=
  ∀ ck, c.checkpoint = some ck →
    c.hasScaler = false ∧ ck.x = clip c.x0 c.lb c.ub ∧ CohAt u c 1 ck.x ck.f ck.jac

theorem CkOk.of_none {u : User α ε} {c : Cfg α} (h : c.checkpoint = none) : CkOk u c :=
  fun _ hc => nomatch h.symm.trans hc

structure Init5 (u : User α ε) (c : Cfg α) (i : Init α) : Prop where
  x_eq : i.x = clip c.x0 c.lb c.ub
  lb_eq : i.sf.lb = c.lb
  ub_eq : i.sf.ub = c.ub
  counted : CountedFrom (cnt0 c).1 (cnt0 c).2 i.sf
  f0 : match c.checkpoint with
    | none => ∃ v, u.F i.x = .ok v ∧ i.f0 = v * 1
    | some ck => i.f0 = ck.f

theorem initEval_init5 {u : User α ε} {c : Cfg α} {i : Init α} (h : initEval u c = .ok i) :
    Init5 u c i := by
  obtain ⟨sf0, d, he, hsf, hd, hx⟩ := initEval_eq h
  have hE : sf0.lb = c.lb ∧ sf0.ub = c.ub ∧ CountedFrom (cnt0 c).1 (cnt0 c).2 sf0 ∧
      (match c.checkpoint with
        | none => ∃ v, u.F (clip c.x0 c.lb c.ub) = .ok v ∧ i.f0 = v * 1
        | some ck => i.f0 = ck.f) := by
    rcases firstEval_ok he with ⟨hck, he⟩ | ⟨ck, hck, hf, rfl⟩
    · obtain ⟨es, ⟨v, hv, hf⟩, -⟩ := funv_sum (new_coh u.toSFUser c.mode _ c.lb c.ub) he
      have hc0 : CountedFrom 0 0 (SF.new c.mode (clip c.x0 c.lb c.ub) c.lb c.ub : SF α) := by
        simp [CountedFrom, SF.new, nF, nG]
      simp only [hck]
      exact ⟨es.lb, es.ub, by simpa [cnt0, hck] using funv_counted hc0 he, v, hv, hf⟩
    · simp only [hck]
      exact ⟨rfl, rfl, by simp [cnt0, hck, CountedFrom, SF.new, nF, nG], hf⟩
  obtain ⟨hElb, hEub, hEc, hEf⟩ := hE
  -- the threshold callables are neither objective nor gradient calls
  have hcnt := hEc.append (d := d) fun c hc => by
    rcases hd c hc with h' | h' <;> simp [h']
  exact ⟨hx, hsf ▸ hElb, hsf ▸ hEub, hsf ▸ hcnt, hx ▸ hEf⟩

theorem prepare_inv5 {u : User α ε} {c : Cfg α} (hU : c.hasUpdate = false)
    (hmul1 : ∀ a : α, a * 1 = a) (hck : CkOk u c) {i : Init α} {s : St α}
    (is : InitSum u c i) (i5 : Init5 u c i) (h : prepare u c i = .ok s) :
    Inv5 u c s.sf.scale (cnt0 c).1 (cnt0 c).2 s := by
  obtain ⟨sf, g, sc, d, f', g', X, G, m, he, rfl, hd, hfg⟩ := prepare_eq h
  obtain ⟨rfl, rfl⟩ := hfg hU
  have hE : Coh u.toSFUser sf ∧ sf.lb = c.lb ∧ sf.ub = c.ub ∧ sf.mode = c.mode ∧
      sf.scale = 1 ∧ CountedFrom (cnt0 c).1 (cnt0 c).2 sf ∧ CohAt u c 1 i.x i.f0 g := by
    have hf0 := i5.f0
    rcases firstGrad_ok he with ⟨hc', he⟩ | ⟨ck, hc', rfl, rfl⟩
    · simp only [hc'] at hf0
      obtain ⟨es, ⟨g0, hg0, hg⟩, -⟩ := gradv_sum is.coh he
      rw [i5.lb_eq, i5.ub_eq, is.mode] at hg0
      rw [is.scale1] at hg
      exact ⟨es.coh, es.lb.trans i5.lb_eq, es.ub.trans i5.ub_eq, es.mode.trans is.mode,
        es.scale.trans is.scale1, gradv_counted i5.counted he, hf0, g0, hg0, hg⟩
    · simp only [hc'] at hf0
      obtain ⟨-, hx, hcoh⟩ := hck ck hc'
      refine ⟨is.coh, i5.lb_eq, i5.ub_eq, is.mode, is.scale1, i5.counted, ?_⟩
      rw [i5.x_eq, ← hx, hf0]
      exact hcoh
  obtain ⟨hEc, hElb, hEub, hEm, hEs, hEcnt, ⟨v, hv, hf⟩, g0, hg0, hg⟩ := hE
  -- the scaler and the update function are neither objective nor gradient calls
  have hcnt := hEcnt.append (d := d) fun e he => by
    rcases (hd e he).1 with h' | h' <;> simp [h']
  exact ⟨hElb, hEub, hEm, rfl, by simpa [Coh] using hEc,
    ⟨⟨v, hv, by rw [hf, hmul1]⟩, g0, hg0, by rw [hg, vscale_one hmul1]⟩, hcnt, by simp [Init.state]⟩

variable [Div α] [Neg α] [FloatLike α]

theorem iterBody_inv5 {u : User α ε} {o : Oracles α δ} {c : Cfg α} (hU : c.hasUpdate = false)
    {sc : α} {n g : Nat} {s s' : St α} {flow : Flow} (hi : Inv5 u c sc n g s)
    (h : iterBody u o c s = .ok (s', flow)) : Inv5 u c sc n g s' := by
  refine iterBody_rule h ?ls ?move ?upd ?flags ?reset ?mem ?cb ?nit
  case ls =>
    intro sfL stp? olog hl
    have ls := lineSearch_sum hi.coh hl
    exact ⟨ls.lb_eq.trans hi.lb_eq, ls.ub_eq.trans hi.ub_eq, ls.mode.trans hi.mode_eq,
      ls.scale.trans hi.scale_eq, ls.coh, hi.at_x, ls.counted n g hi.counted, hi.cbs⟩
  case move =>
    intro sfL stp olog sf f gr _ he iL
    obtain ⟨es, ⟨v, hv, hf⟩, ⟨g0, hg0, hg⟩⟩ := funAndGrad_sum iL.coh he
    rw [iL.lb_eq, iL.ub_eq, iL.mode_eq] at hg0
    rw [iL.scale_eq] at hf hg
    exact ⟨es.lb.trans iL.lb_eq, es.ub.trans iL.ub_eq, es.mode.trans iL.mode_eq,
      es.scale.trans iL.scale_eq, es.coh, ⟨⟨v, hv, hf⟩, ⟨g0, hg0, hg⟩⟩,
      funAndGrad_counted iL.counted he, hi.cbs⟩
  case upd =>
    intro t _ r hT
    simp [hU] at hT
  case flags => exact fun t _ _ _ it => { it with }
  case reset => exact fun t it => { it with }
  case mem => exact fun t it => { it with }
  case cb =>
    -- the state handed over is the current one
    exact fun t _ _ _ _ it => { it with
      coh := coh_logCall _ _ it.coh
      counted := it.counted.append (d := [Call.mk .callback t.x]) (by simp)
      cbs := List.forall_mem_append.2 ⟨it.cbs, List.forall_mem_singleton.2 it.at_x⟩ }
  case nit => exact fun t it => { it with }

end Lbfgsb
