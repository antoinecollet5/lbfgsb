/-
  C09: the executable model `subspaceMin` (lists) computes the masked Sherman–Morrison–Woodbury
  direction of Props/C09Model (Mathlib matrices): bridge lemmas and the specification of the model.
-/
import LbfgsbVerif.Props.C09Model
import LbfgsbVerif.Proofs.Gauss

namespace Lbfgsb
open Matrix
variable {K : Type} [Field K] [LinearOrder K] [IsStrictOrderedRing K]

/-- `free_vars` of `get_freev`, as a mask: `(x_cp != ub) & (x_cp != lb)` -/
def subMask (i : SubIn K) : List Bool := freeMask i.xc i.lb i.ub
/-- the number of columns of `W` (`2m`); by unfolding it is `kOf i.toCauchyIn` (Spec/Quadratic) -/
def subK (i : SubIn K) : Nat := match i.W with | r :: _ => r.length | [] => 0
/-- `r = grad + theta * (xc - x)`, minus `W.dot(bmv(invMfactors, c))` when `use_factor` -/
def subR (i : SubIn K) : Vec K :=
  let r0 := vadd i.g (smul i.theta (vsub i.xc i.x))
  if i.useFactor then vsub r0 (i.W.map fun row => dot row (i.toCauchyIn.mv i.c)) else r0
/-- `rHat = r[free_vars]`, kept at full length with zeros on the active variables -/
def subRHat (i : SubIn K) : Vec K := ((subR i).zip (subMask i)).map fun (a, m) => if m then a else 0
/-- `WTZ.T = ZᵀW`: `W` with the rows of the active variables zeroed -/
def subWz (i : SubIn K) : List (Vec K) :=
  (i.W.zip (subMask i)).map fun (row, m) => if m then row else row.map fun _ => 0
/-- `v = WTZ.dot(rHat)`, the right-hand side of the small system -/
def subV0 (i : SubIn K) : Vec K := wtv (subWz i) (subRHat i) (subK i)
/-- the matrix of the small `2m × 2m` system, `M⁻¹ − invThet * WTZ.dot(WTZ.T)` (`form_k`) -/
def subN (i : SubIn K) : List (Vec K) :=
  let k := subK i
  let Wz := subWz i
  let WtZZtW : List (Vec K) := (List.range k).map fun a => (List.range k).map fun b =>
    dot (Wz.map fun row => row.getD a 0) (Wz.map fun row => row.getD b 0)
  (i.Minv.zip WtZZtW).map fun (ra, rb) => vsub ra (smul (1 / i.theta) rb)
/-- `v` after the solve; zeros without factors (`M = 0` at iteration 0) -/
def subV (i : SubIn K) : Vec K :=
  if i.useFactor then gaussSolve (subN i) (subV0 i) else (subV0 i).map fun _ => 0
/-- `dHat = -invThet * (rHat + invThet * WTZ.T.dot(v))` -/
def subD0 (i : SubIn K) : Vec K :=
  ((subRHat i).zip ((subWz i).map fun row => dot row (subV i))).map
    fun (a, b) => -((1 / i.theta) * (a + (1 / i.theta) * b))
/-- `Z @ dHat`: the direction at full length (the model masks it once more) -/
def subD (i : SubIn K) : Vec K := ((subD0 i).zip (subMask i)).map fun (a, m) => if m then a else 0

theorem subV_of_useFactor (i : SubIn K) (h : i.useFactor = true) : subV i = gaussSolve (subN i) (subV0 i) :=
  if_pos h

theorem subV_of_not_useFactor (i : SubIn K) (h : i.useFactor = false) : subV i = (subV0 i).map fun _ => 0 :=
  if_neg (h ▸ Bool.false_ne_true)

theorem subspaceMin_eq (i : SubIn K) :
    subspaceMin i = if !((subMask i).any id) then i.xc else
      clip (vadd i.xc (smul (alphaStar i.xc (subD i) i.lb i.ub (subMask i)) (subD i))) i.lb i.ub := rfl

def maskF (n : Nat) (m : List Bool) : Fin n → Bool := fun r => m.getD r false

theorem vec_mask (n : Nat) (a : List K) (m : List Bool) (ha : a.length = n) (hm : m.length = n) :
    vec n (C09.maskedDir a m) = C09.maskVec (maskF n m) (vec n a) := by
  funext r
  simp only [vec, C09.maskVec, maskF, C09.maskedDir]
  rw [getD_zip_map _ a m r 0 false 0 (ha.symm ▸ r.2) (hm.symm ▸ r.2)]
  rfl

theorem vec_subD0 (θ : K) (n : Nat) (a b : List K) (ha : a.length = n) (hb : b.length = n) :
    vec n ((a.zip b).map fun (p : K × K) => -((1 / θ) * (p.1 + (1 / θ) * p.2))) =
      -(1 / θ) • (vec n a + (1 / θ) • vec n b) := by
  funext r
  simp only [vec, Pi.smul_apply, Pi.add_apply, smul_eq_mul]
  rw [getD_zip_map _ a b r 0 0 0 (ha.symm ▸ r.2) (hb.symm ▸ r.2)]
  ring

/-- the converse of C09 `feasible_of_le_cand` -/
theorem le_cand_of_feasible (xc d lb ub : Vec K) (mask : List Bool) (a : K) (hf : InBoxF lb ub (vadd xc (smul a d))) :
    ∀ t ∈ alphaStar.cand xc d lb ub mask, a ≤ t := by
  fun_induction alphaStar.cand xc d lb ub mask with
  | case1 xi xs di ds li ls ui us m ms rest hc ih => exact ih hf.2
  | case2 xi xs di ds li ls ui us m ms rest hc ih =>
    intro t ht
    rcases List.mem_cons.1 ht with rfl | ht
    · exact le_ratio_of_coord_feasible hf.1.1 hf.1.2 fun h => hc (by simp [h])
    · exact ih hf.2 t ht
  | case3 => exact fun t ht => absurd ht List.not_mem_nil

/-- used with `a = 0` (`x_cp` is feasible) and with `a = 1` (the whole step is feasible) -/
theorem le_alphaStar_of_feasible (xc d lb ub : Vec K) (mask : List Bool) (a : K) (ha : a ≤ 1)
    (hf : InBoxF lb ub (vadd xc (smul a d))) : a ≤ alphaStar xc d lb ub mask :=
  (le_foldl_fmin_iff _ 1 a).2 ⟨ha, le_cand_of_feasible xc d lb ub mask a hf⟩

theorem alphaStar_nonneg (xc d lb ub : Vec K) (mask : List Bool) (hd : d.length = xc.length) (hx : InBoxF lb ub xc) :
    0 ≤ alphaStar xc d lb ub mask :=
  le_alphaStar_of_feasible xc d lb ub mask 0 zero_le_one (by rwa [vadd_smul_zero xc d hd])

/-- non-empty memory (`use_factor = True`). `hmvc` and `hsolve` say that the two solves are exact; they follow from non-vanishing
pivots (`Gauss.SubCtxP.toSubCtx`) -/
structure SubCtx (i : SubIn K) (n k : Nat) (Mm Minvm : Matrix (Fin k) (Fin k) K) : Prop where
  hx : i.x.length = n
  hg : i.g.length = n
  hxc : i.xc.length = n
  hW : i.W.length = n
  hrow : ∀ r, r < n → (i.W.getD r []).length = k
  hcl : i.c.length = k
  box : InBoxF i.lb i.ub i.xc
  hθ : i.theta ≠ 0
  uf : i.useFactor = true
  hmvc : (i.toCauchyIn.mv i.c).length = k ∧ vec k (i.toCauchyIn.mv i.c) = Mm *ᵥ vec k i.c
  hM : Mm * Minvm = 1
  /-- `c = Wᵀ(x_cp − x)`: what C08 `gcp_first_local_min` proves of the Cauchy step -/
  hc : vec k i.c = (wmat n k i.W)ᵀ *ᵥ (vec n i.xc - vec n i.x)
  hsolve : (subV i).length = k ∧
    (Minvm - (1 / i.theta) • ((C09.maskRows (maskF n (subMask i)) (wmat n k i.W))ᵀ *
        C09.maskRows (maskF n (subMask i)) (wmat n k i.W))) *ᵥ vec k (subV i) =
      (C09.maskRows (maskF n (subMask i)) (wmat n k i.W))ᵀ *ᵥ C09.maskVec (maskF n (subMask i)) (vec n (subR i))

/-- what every C09 theorem about `subspaceMin` is derived from (`subspace_spec`, `subspace_spec0` produce it). Read it through
`SubSpec.zero_on_active`, `.newton` (the Newton condition of `B = bmat θ W Mm` on the free variables), `.d_length`, `.point`. -/
def SubSpec (i : SubIn K) (n k : Nat) (Mm : Matrix (Fin k) (Fin k) K) : Prop :=
    (∀ r, maskF n (subMask i) r = false → vec n (subD i) r = 0) ∧
    (∀ r, maskF n (subMask i) r = true →
      (vec n i.g + bmat i.theta (wmat n k i.W) Mm *ᵥ ((vec n i.xc - vec n i.x) + vec n (subD i))) r = 0) ∧
    (subD i).length = n ∧
    ∃ al, 0 ≤ al ∧ al ≤ 1 ∧ subspaceMin i = vadd i.xc (smul al (subD i)) ∧ InBoxF i.lb i.ub (subspaceMin i)

theorem SubSpec.zero_on_active {i : SubIn K} {n k : Nat} {Mm : Matrix (Fin k) (Fin k) K} (h : SubSpec i n k Mm) :
    ∀ r, maskF n (subMask i) r = false → vec n (subD i) r = 0 := h.1

theorem SubSpec.newton {i : SubIn K} {n k : Nat} {Mm : Matrix (Fin k) (Fin k) K} (h : SubSpec i n k Mm) :
    ∀ r, maskF n (subMask i) r = true →
      (vec n i.g + bmat i.theta (wmat n k i.W) Mm *ᵥ ((vec n i.xc - vec n i.x) + vec n (subD i))) r = 0 := h.2.1

theorem SubSpec.d_length {i : SubIn K} {n k : Nat} {Mm : Matrix (Fin k) (Fin k) K} (h : SubSpec i n k Mm) :
    (subD i).length = n := h.2.2.1

theorem SubSpec.point {i : SubIn K} {n k : Nat} {Mm : Matrix (Fin k) (Fin k) K} (h : SubSpec i n k Mm) :
    ∃ al, 0 ≤ al ∧ al ≤ 1 ∧ subspaceMin i = vadd i.xc (smul al (subD i)) ∧ InBoxF i.lb i.ub (subspaceMin i) :=
  h.2.2.2

theorem subWz_length (i : SubIn K) (n : Nat) (hW : i.W.length = n) (hm : (subMask i).length = n) :
    (subWz i).length = n := by
  rw [subWz, List.length_map, List.length_zip, hW, hm, Nat.min_self]

/-- what `SubCtx`, `SubCtx0` and `SubCtxP` have in common: the sizes and a feasible Cauchy point -/
structure SubSizes (i : SubIn K) (n k : Nat) : Prop where
  hx : i.x.length = n
  hg : i.g.length = n
  hxc : i.xc.length = n
  hW : i.W.length = n
  hrow : ∀ r, r < n → (i.W.getD r []).length = k
  box : InBoxF i.lb i.ub i.xc

/-- empty memory (`use_factor = False`): `B = θI`, nothing is solved -/
structure SubCtx0 (i : SubIn K) (n k : Nat) : Prop where
  hx : i.x.length = n
  hg : i.g.length = n
  hxc : i.xc.length = n
  hW : i.W.length = n
  hrow : ∀ r, r < n → (i.W.getD r []).length = k
  box : InBoxF i.lb i.ub i.xc
  hθ : i.theta ≠ 0
  uf : i.useFactor = false

theorem SubCtx.sizes {i : SubIn K} {n k : Nat} {Mm Minvm : Matrix (Fin k) (Fin k) K} (h : SubCtx i n k Mm Minvm) :
    SubSizes i n k := ⟨h.hx, h.hg, h.hxc, h.hW, h.hrow, h.box⟩

theorem SubCtx0.sizes {i : SubIn K} {n k : Nat} (h : SubCtx0 i n k) : SubSizes i n k :=
  ⟨h.hx, h.hg, h.hxc, h.hW, h.hrow, h.box⟩

namespace SubSizes
variable {i : SubIn K} {n k : Nat} (s : SubSizes i n k)
include s

theorem mask_length : (subMask i).length = n := by
  obtain ⟨hll, hul⟩ := inBoxF_lengths s.box
  rw [subMask, C09.freeMask_length i.xc i.lb i.ub hll hul, s.hxc]

theorem wz_length : (subWz i).length = n := subWz_length i n s.hW s.mask_length

theorem wz_getD (r : Nat) (hr : r < n) :
    (subWz i).getD r [] = if (subMask i).getD r false then i.W.getD r [] else (i.W.getD r []).map fun _ => 0 := by
  unfold subWz
  rw [getD_zip_map _ i.W (subMask i) r [] false [] (s.hW.symm ▸ hr) (s.mask_length.symm ▸ hr)]

theorem wmat_wz : wmat n k (subWz i) = C09.maskRows (maskF n (subMask i)) (wmat n k i.W) := by
  funext r j
  simp only [wmat, C09.maskRows, Matrix.of_apply]
  rw [s.wz_getD r r.2]
  have e : (subMask i).getD (r : Nat) false = maskF n (subMask i) r := rfl
  rw [e]
  cases maskF n (subMask i) r with
  | true => rfl
  | false => exact congrFun (vec_zeros k (i.W.getD r [])) j

theorem wz_rows : ∀ r, r < n → ((subWz i).getD r []).length = k := by
  intro r hr
  rw [s.wz_getD r hr]
  split
  · exact s.hrow r hr
  · rw [List.length_map]
    exact s.hrow r hr

theorem r0_length : (vadd i.g (smul i.theta (vsub i.xc i.x))).length = n := by
  simp [s.hg, s.hxc, s.hx]

theorem vec_r0 : vec n (vadd i.g (smul i.theta (vsub i.xc i.x))) = vec n i.g + i.theta • (vec n i.xc - vec n i.x) := by
  have hl : (vsub i.xc i.x).length = n := by rw [vsub_length, s.hxc, s.hx, Nat.min_self]
  rw [vec_vadd n _ _ s.hg (by rw [smul_length, hl]), vec_smul n _ _, vec_vsub n _ _ s.hxc s.hx]

theorem r_length : (subR i).length = n := by
  unfold subR
  split
  · rw [vsub_length, s.r0_length, List.length_map, s.hW, Nat.min_self]
  · exact s.r0_length

theorem rHat_length : (subRHat i).length = n := by simp [subRHat, s.r_length, s.mask_length]

theorem vec_rHat : vec n (subRHat i) = C09.maskVec (maskF n (subMask i)) (vec n (subR i)) :=
  vec_mask n (subR i) (subMask i) s.r_length s.mask_length

theorem d0_length : (subD0 i).length = n := by
  rw [subD0, List.length_map, List.length_zip, List.length_map, s.rHat_length, s.wz_length, Nat.min_self]

theorem d_length : (subD i).length = n := by simp [subD, s.d0_length, s.mask_length]

/-- the last stage: masking once more is a no-op on a direction that vanishes on the active variables; the step is
truncated by `α* ∈ [0, 1]`, after which the `clip` is the identity -/
theorem spec_of_d0 (Mm : Matrix (Fin k) (Fin k) K)
    (hz : ∀ r, maskF n (subMask i) r = false → vec n (subD0 i) r = 0)
    (hnewt : ∀ r, maskF n (subMask i) r = true →
      (vec n i.g + bmat i.theta (wmat n k i.W) Mm *ᵥ ((vec n i.xc - vec n i.x) + vec n (subD0 i))) r = 0) :
    SubSpec i n k Mm := by
  have hD : vec n (subD i) = vec n (subD0 i) := by
    rw [show subD i = C09.maskedDir (subD0 i) (subMask i) from rfl,
      vec_mask n (subD0 i) (subMask i) s.d0_length s.mask_length]
    funext r
    cases hm : maskF n (subMask i) r with
    | true => exact C09.maskVec_apply_true hm _
    | false => rw [C09.maskVec_apply_false hm, hz r hm]
  have hal := alphaStar_nonneg i.xc (subD i) i.lb i.ub (subMask i) (by rw [s.d_length, s.hxc]) s.box
  rw [SubSpec, hD]
  refine ⟨hz, hnewt, s.d_length, ?_⟩
  rw [subspaceMin_eq]
  split
  · exact ⟨0, le_rfl, zero_le_one, (vadd_smul_zero i.xc (subD i) (by rw [s.d_length, s.hxc])).symm, s.box⟩
  · obtain ⟨hin, hle1⟩ : InBoxF i.lb i.ub (vadd i.xc (smul (alphaStar i.xc (subD i) i.lb i.ub (subMask i)) (subD i))) ∧
        alphaStar i.xc (subD i) i.lb i.ub (subMask i) ≤ 1 :=
      C09.alpha_star_feasible i.xc (subD0 i) i.lb i.ub (subMask i) s.box
        (by rw [s.d0_length, s.hxc]) (by rw [s.mask_length, s.hxc]) _ hal le_rfl
    rw [clip_of_inBox (inBoxF_iff_inBox.1 hin)]
    exact ⟨_, hal, hle1, rfl, hin⟩

end SubSizes

theorem SubCtx.vec_subR {i : SubIn K} {n k : Nat} {Mm Minvm : Matrix (Fin k) (Fin k) K} (h : SubCtx i n k Mm Minvm) :
    vec n (subR i) = vec n i.g + bmat i.theta (wmat n k i.W) Mm *ᵥ (vec n i.xc - vec n i.x) := by
  have s := h.sizes
  unfold subR
  dsimp only
  rw [if_pos h.uf, vec_vsub n _ _ s.r0_length (by rw [List.length_map, h.hW]), s.vec_r0,
    vec_rows_dot n k i.W _ h.hW h.hrow h.hmvc.1, h.hmvc.2, h.hc, bmat_mulVec, add_sub_assoc]

theorem SubCtx0.vec_subR {i : SubIn K} {n k : Nat} (h : SubCtx0 i n k) :
    vec n (subR i) = vec n i.g + bmat i.theta (wmat n k i.W) 0 *ᵥ (vec n i.xc - vec n i.x) := by
  unfold subR
  dsimp only
  rw [if_neg (h.uf ▸ Bool.false_ne_true), h.sizes.vec_r0, bmat_zero_mulVec]

theorem subspace_spec (i : SubIn K) (n k : Nat) (Mm Minvm : Matrix (Fin k) (Fin k) K) (h : SubCtx i n k Mm Minvm) :
    SubSpec i n k Mm := by
  have s := h.sizes
  obtain ⟨hvl, hsol⟩ := h.hsolve
  have hD0 : vec n (subD0 i) = -(1 / i.theta) • (C09.maskVec (maskF n (subMask i)) (vec n (subR i)) +
      (1 / i.theta) • (C09.maskRows (maskF n (subMask i)) (wmat n k i.W) *ᵥ vec k (subV i))) := by
    rw [subD0, vec_subD0 i.theta n (subRHat i) _ s.rHat_length (by simp [s.wz_length]), s.vec_rHat,
      vec_rows_dot n k (subWz i) _ s.wz_length s.wz_rows hvl, s.wmat_wz]
  obtain ⟨hz, hnewt⟩ := C09.masked_smw i.theta h.hθ (wmat n k i.W) Mm Minvm h.hM (maskF n (subMask i))
    (vec n (subR i)) (vec k (subV i)) hsol
  rw [← hD0] at hz hnewt
  refine s.spec_of_d0 Mm hz fun r hr => ?_
  rw [mulVec_add, ← add_assoc, Pi.add_apply, ← h.vec_subR, hnewt r hr, add_neg_cancel]

theorem subspace_spec0 (i : SubIn K) (n k : Nat) (h : SubCtx0 i n k) :
    SubSpec i n k (0 : Matrix (Fin k) (Fin k) K) := by
  have s := h.sizes
  have hZ0 : vec n ((subWz i).map fun row => dot row (subV i)) = 0 := by
    funext r
    have hr : (r : Nat) < (subWz i).length := s.wz_length.symm ▸ r.2
    rw [vec, getD_map (fun row => dot row (subV i)) (subWz i) [] r hr, subV_of_not_useFactor i h.uf, dot_zeros]
    rfl
  have hD0 : vec n (subD0 i) = -(1 / i.theta) • C09.maskVec (maskF n (subMask i)) (vec n (subR i)) := by
    rw [subD0, vec_subD0 i.theta n (subRHat i) _ s.rHat_length (by simp [s.wz_length]), s.vec_rHat, hZ0, smul_zero,
      add_zero]
  refine s.spec_of_d0 0 (fun r hr => ?_) fun r hr => ?_
  · rw [hD0, Pi.smul_apply, C09.maskVec_apply_false hr, smul_eq_mul, mul_zero]
  · rw [mulVec_add, ← add_assoc, Pi.add_apply, ← h.vec_subR, bmat_zero_mulVec, hD0, Pi.smul_apply, Pi.smul_apply,
      C09.maskVec_apply_true hr, smul_smul, mul_neg, mul_one_div_cancel h.hθ, neg_one_smul, add_neg_cancel]

end Lbfgsb
