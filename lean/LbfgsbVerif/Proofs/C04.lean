/-
  The shared base of the run-level properties (C02, C03, C05, C17, C18 build on it; C04, the
  termination report and the budgets, is read off its last summary), in the order of a run:
  what the initial evaluation, the early return, the preparation, a pass of the loop, the
  whole loop and the final classification guarantee. Level U.
-/
import LbfgsbVerif.Proofs.Shell

namespace Lbfgsb
variable {α ε δ : Type}

def ThreshVal (fn : Unit → Except ε α) (t : Thresh α) (a : α) : Prop :=
  match t with
  | .const b => a = b
  | .callable => fn () = .ok a

def isCallableT : Thresh α → Bool
  | .callable => true
  | .const _ => false

structure SameEnv (s s' : St α) : Prop where
  gtol : s'.gtol = s.gtol
  ftarget : s'.ftarget = s.ftarget
  scale : s'.sf.scale = s.sf.scale
  mode : s'.sf.mode = s.sf.mode

theorem SameEnv.trans {s1 s2 s3 : St α} (a : SameEnv s1 s2) (b : SameEnv s2 s3) : SameEnv s1 s3 :=
  ⟨b.gtol.trans a.gtol, b.ftarget.trans a.ftarget, b.scale.trans a.scale, b.mode.trans a.mode⟩

variable [LinearOrder α]

theorem evalThresh_sum [OfNat α 0] {u : User α ε} {fn : Unit → Except ε α} {k : CallKind}
    {sf sf' : SF α} {t : Thresh α} {a : α} (hc : Coh u.toSFUser sf)
    (h : evalThresh fn k sf t = .ok (sf', a)) :
    ThreshVal fn t a ∧ Coh u.toSFUser sf' ∧ sf'.mode = sf.mode ∧ sf'.scale = sf.scale ∧
      sf'.nfev = sf.nfev ∧
      ∀ k', countK k' sf'.log =
        countK k' sf.log + (if k = k' ∧ isCallableT t = true then 1 else 0) := by
  rcases evalThresh_ok h with ⟨rfl, rfl⟩ | ⟨rfl, hv, rfl⟩
  · exact ⟨rfl, hc, rfl, rfl, rfl, fun k' => by simp [isCallableT]⟩
  · refine ⟨hv, by simpa [Coh] using hc, rfl, rfl, rfl, fun k' => ?_⟩
    simp [isCallableT]

theorem initEval_log [Add α] [Sub α] [Mul α] [OfNat α 0] [OfNat α 1] {u : User α ε} {c : Cfg α}
    {i : Init α} (h : initEval u c = .ok i) :
    ∀ call ∈ i.sf.log, EvalAt u.toSFUser c.mode (clip c.x0 c.lb c.ub) call ∨
      call.kind = .ftarget ∨ call.kind = .gtol := by
  obtain ⟨sf0, d, he, hsf, hd, -⟩ := initEval_eq h
  have h0 : ∀ call ∈ sf0.log, EvalAt u.toSFUser c.mode (clip c.x0 c.lb c.ub) call := by
    rcases firstEval_ok he with ⟨-, he⟩ | ⟨ck, -, -, rfl⟩
    · obtain ⟨es, -⟩ := funv_sum (new_coh u.toSFUser c.mode _ c.lb c.ub) he
      exact es.log.all (by simp [SF.new])
    · simp [SF.new]
  refine hsf ▸ fun call hc => ?_
  exact (List.mem_append.1 hc).elim (fun h' => Or.inl (h0 call h')) fun h' => Or.inr (hd call h')

section
variable [Div α] [OfNat α 0]

/-- state invariant behind the truthfulness of the report -/
structure Inv4 (u : User α ε) (s : St α) : Prop where
  coh : Coh u.toSFUser s.sf
  succ_task : s.success = true → s.task = .target ∨ s.task = .ftol ∨ s.task = .userCallback
  task_succ : s.task = .target ∨ s.task = .ftol ∨ s.task = .userCallback → s.success = true
  target_true : s.task = .target → targetReached (s.f / s.sf.scale) s.ftarget = true
  cb_true : s.task = .userCallback → ∃ cb ∈ s.cbStates, u.callback cb = .ok true
  abn : s.task = .abnormal → s.success = false

theorem Inv4.of_going {u : User α ε} {s : St α} (hc : Coh u.toSFUser s.sf)
    (hs : s.success = false)
    (ht : ¬ (s.task = .target ∨ s.task = .ftol ∨ s.task = .userCallback)) : Inv4 u s :=
  ⟨hc, fun h => by simp [hs] at h, fun h => absurd h ht, fun h => absurd (Or.inl h) ht,
    fun h => absurd (Or.inr (Or.inr h)) ht, fun _ => hs⟩

theorem Inv4.going {u : User α ε} {s : St α} (hi : Inv4 u s) (hs : s.success = false) :
    ¬ (s.task = .target ∨ s.task = .ftol ∨ s.task = .userCallback) :=
  fun h => by simpa [hs] using hi.task_succ h

theorem Inv4.of_halt {u : User α ε} {s : St α} (hc : Coh u.toSFUser s.sf) (hs : s.success = true)
    (ht : (s.task = .target ∧ targetReached (s.f / s.sf.scale) s.ftarget = true) ∨
      s.task = .ftol) : Inv4 u s := by
  rcases ht with ⟨ht, hr⟩ | ht
  · exact ⟨hc, fun _ => Or.inl ht, fun _ => hs, fun _ => hr, fun h => by simp [ht] at h,
      fun h => by simp [ht] at h⟩
  · exact ⟨hc, fun _ => Or.inr (Or.inl ht), fun _ => hs, fun h => by simp [ht] at h,
      fun h => by simp [ht] at h, fun h => by simp [ht] at h⟩

end

variable [Add α] [Sub α] [Mul α] [Div α] [Neg α] [OfNat α 0] [OfNat α 1] [FloatLike α]

omit [Add α] [Sub α] [Mul α] [Div α] [Neg α] [OfNat α 1] [FloatLike α] in
theorem coh_logCall {u : User α ε} {s : St α} (k : CallKind) (a : Vec α)
    (h : Coh u.toSFUser s.sf) : Coh u.toSFUser (s.logCall k a).sf := by
  simpa [St.logCall, Coh] using h

def nit0 (c : Cfg α) : Nat := match c.checkpoint with | none => 0 | some ck => ck.nit
/-- `n0` of C04 (5) -/
def nfev0 (c : Cfg α) : Nat := match c.checkpoint with | none => 1 | some ck => ck.nfev

structure InitSum (u : User α ε) (c : Cfg α) (i : Init α) : Prop where
  coh : Coh u.toSFUser i.sf
  mode : i.sf.mode = c.mode
  nit : i.nit = nit0 c
  nfev : i.sf.nfev = nfev0 c
  gtol : ThreshVal u.gtolFn c.gtol i.gtol
  ftarget : match c.ftarget with
    | none => i.ftarget = none
    | some t => ∃ a, i.ftarget = some a ∧ ThreshVal u.ftargetFn t a
  n_gtol : countK .gtol i.sf.log = if isCallableT c.gtol then 1 else 0
  n_ftarget : countK .ftarget i.sf.log =
    match c.ftarget with | some t => (if isCallableT t then 1 else 0) | none => 0
  f0_ck : ∀ ck, c.checkpoint = some ck → i.f0 = ck.f
  scale1 : i.sf.scale = 1

theorem firstEval_sum {u : User α ε} {c : Cfg α} {e : SF α × α} (h : firstEval u c = .ok e) :
    Coh u.toSFUser e.1 ∧ e.1.mode = c.mode ∧ e.1.nfev = nfev0 c ∧
      countK .gtol e.1.log = 0 ∧ countK .ftarget e.1.log = 0 ∧
      (∀ ck, c.checkpoint = some ck → e.2 = ck.f) ∧ e.1.scale = 1 := by
  obtain ⟨sf, f⟩ := e
  rcases firstEval_ok h with ⟨hck, h⟩ | ⟨ck, hck, rfl, rfl⟩
  · obtain ⟨es, -, hn⟩ := funv_sum (new_coh u.toSFUser c.mode _ c.lb c.ub) h
    have hl := countK_ext (es.log.mono fun _ h => (evalAt_loopCall h).notThresh)
    -- exactly one objective call from a fresh wrapper
    exact ⟨es.coh, es.mode, by simpa [nfev0, hck, SF.new] using hn rfl, hl.2, hl.1,
      fun ck h' => by simp [hck] at h', es.scale⟩
  · exact ⟨by simp [Coh, SF.new], rfl, by simp [nfev0, hck], rfl, rfl,
      fun ck' h' => by rw [Option.some.inj (hck.symm.trans h')], rfl⟩

theorem initEval_sum {u : User α ε} {c : Cfg α} {i : Init α} (h : initEval u c = .ok i) :
    InitSum u c i := by
  obtain ⟨sf0, sf1, sf2, he, ht, hg, hi⟩ := initEval_ok h
  obtain ⟨hEc, hEm, hEn, hEg, hEf, hEk, hEs⟩ := firstEval_sum he
  have hT : Coh u.toSFUser sf1 ∧ sf1.mode = sf0.mode ∧ sf1.scale = sf0.scale ∧
      sf1.nfev = sf0.nfev ∧ countK .gtol sf1.log = 0 ∧
      (countK .ftarget sf1.log =
        match c.ftarget with | some th => (if isCallableT th then 1 else 0) | none => 0) ∧
      (match c.ftarget with
        | none => i.ftarget = none
        | some th => ∃ a, i.ftarget = some a ∧ ThreshVal u.ftargetFn th a) := by
    rcases evalFtarget_ok ht with ⟨hn, rfl, hft⟩ | ⟨th, a, hs, hft, hr⟩
    · rw [hn]
      exact ⟨hEc, rfl, rfl, rfl, hEg, hEf, hft⟩
    · obtain ⟨hv, hc1, hm1, hs1, hn1, hk1⟩ := evalThresh_sum hEc hr
      rw [hs]
      exact ⟨hc1, hm1, hs1, hn1, by simp [hk1, hEg], by simp [hk1, hEf], a, hft, hv⟩
  obtain ⟨hTc, hTm, hTs, hTn, hTg, hTf, hTv⟩ := hT
  obtain ⟨hv, hGc, hGm, hGs, hGn, hGk⟩ := evalThresh_sum hTc hg
  obtain rfl : sf2 = i.sf := (congrArg Init.sf hi).symm
  exact ⟨hGc, hGm.trans (hTm.trans hEm), congrArg Init.nit hi, hGn.trans (hTn.trans hEn), hv, hTv,
    (hGk _).trans (by simp [hTg]), (hGk _).trans (by simpa using hTf), hEk,
    hGs.trans (hTs.trans hEs)⟩

theorem earlyResult_sum {u : User α ε} {c : Cfg α} {i : Init α} {r : Result α} {s : St α}
    (is : InitSum u c i) (he : (r, s) = earlyResult c i) :
    r.f = i.f0 ∧ s.cbStates = [] ∧ r.msg = .target ∧ r.success = true ∧ r.nit = nit0 c ∧
      r.nfev = nfev0 c ∧ s.sf = i.sf ∧ s.gtol = i.gtol ∧ s.ftarget = i.ftarget := by
  rcases earlyResult_cases c i with ⟨ck, hck, e⟩ | ⟨hck, t, e, rfl⟩
  · obtain ⟨rfl, rfl⟩ := Prod.mk.inj (he.trans e)
    exact ⟨(is.f0_ck ck hck).symm, rfl, rfl, rfl, by simp [nit0, hck], by simp [nfev0, hck], rfl,
      rfl, rfl⟩
  · obtain ⟨rfl, rfl⟩ := Prod.mk.inj (he.trans e)
    exact ⟨rfl, rfl, rfl, rfl, is.nit, is.nfev, rfl, rfl, rfl⟩

structure PrepFrame (u : User α ε) (s s' : St α) : Prop where
  coh : Coh u.toSFUser s'.sf
  task : s'.task = s.task
  success : s'.success = s.success
  nit : s'.nit = s.nit
  gtol : s'.gtol = s.gtol
  ftarget : s'.ftarget = s.ftarget
  cbs : s'.cbStates = s.cbStates
  mode : s'.sf.mode = s.sf.mode
  nfev : s'.sf.nfev = s.sf.nfev
  log : LogExt NotThresh s.sf.log s'.sf.log

theorem PrepFrame.trans {u : User α ε} {s1 s2 s3 : St α} (a : PrepFrame u s1 s2)
    (b : PrepFrame u s2 s3) : PrepFrame u s1 s3 :=
  ⟨b.coh, b.task.trans a.task, b.success.trans a.success, b.nit.trans a.nit,
   b.gtol.trans a.gtol, b.ftarget.trans a.ftarget, b.cbs.trans a.cbs,
   b.mode.trans a.mode, b.nfev.trans a.nfev, LogExt.trans a.log b.log⟩

theorem firstGrad_sum {u : User α ε} {c : Cfg α} {i : Init α} {e : SF α × Vec α}
    (hc : Coh u.toSFUser i.sf) (h : firstGrad u c i = .ok e) :
    Coh u.toSFUser e.1 ∧ e.1.mode = i.sf.mode ∧ e.1.scale = i.sf.scale ∧ i.sf.nfev ≤ e.1.nfev ∧
      (i.sf.mode = .callable → e.1.nfev = i.sf.nfev) ∧ LogExt NotThresh i.sf.log e.1.log := by
  obtain ⟨sf1, g⟩ := e
  rcases firstGrad_ok h with ⟨-, h⟩ | ⟨ck, -, rfl, rfl⟩
  · obtain ⟨es, -, hn⟩ := gradv_sum hc h
    exact ⟨es.coh, es.mode, es.scale, es.nfev_ge, hn, es.log.mono fun _ h => (evalAt_loopCall h).notThresh⟩
  · exact ⟨hc, rfl, rfl, Nat.le_refl _, fun _ => rfl, LogExt.refl _⟩

structure PrepSum (u : User α ε) (c : Cfg α) (i : Init α) (s : St α) : Prop where
  inv : Inv4 u s
  success : s.success = false
  nit : s.nit = i.nit
  gtol : s.gtol = i.gtol
  ftarget : s.ftarget = i.ftarget
  mode : s.sf.mode = i.sf.mode
  nfev_ge : i.sf.nfev ≤ s.sf.nfev
  nfev_eq : i.sf.mode = .callable → s.sf.nfev = i.sf.nfev
  log : LogExt NotThresh i.sf.log s.sf.log

theorem prepare_sum {u : User α ε} {c : Cfg α} {i : Init α} {s : St α}
    (hc : Coh u.toSFUser i.sf) (h : prepare u c i = .ok s) : PrepSum u c i s := by
  obtain ⟨sf, g, sc, d, f', g', X, G, m, he, rfl, hd, -⟩ := prepare_eq h
  obtain ⟨hGc, hGm, -, hGn, hGe, hGl⟩ := firstGrad_sum hc he
  refine ⟨Inv4.of_going (by simpa [Coh] using hGc) rfl (by simp [Init.state]), rfl, rfl, rfl, rfl,
    hGm, hGn, hGe, hGl.trans ⟨d, rfl, fun e he => ?_⟩⟩
  rcases (hd e he).1 with h' | h' <;> simp [NotThresh, h']

/-- what a pass does to the wrapper; `k` bounds the objective evaluations with a callable
gradient -/
structure PassSF (u : User α ε) (sf sf' : SF α) (k : Nat) : Prop where
  coh : Coh u.toSFUser sf'
  scale : sf'.scale = sf.scale
  mode : sf'.mode = sf.mode
  nfev_ge : sf.nfev ≤ sf'.nfev
  nfev_le : sf.mode = .callable → sf'.nfev ≤ sf.nfev + k
  log : LogExt LoopCall sf.log sf'.log

theorem iterBody_sf {u : User α ε} {o : Oracles α δ} {c : Cfg α} {s s' : St α} {flow : Flow}
    (hc : Coh u.toSFUser s.sf) (h : iterBody u o c s = .ok (s', flow)) :
    PassSF u s.sf s'.sf (min c.maxls (c.maxfun - s.sf.nfev) + 1) := by
  refine iterBody_rule (I := fun t => PassSF u s.sf t.sf (min c.maxls (c.maxfun - s.sf.nfev) + 1))
    h ?ls ?move ?upd ?flags ?reset ?mem ?cb ?nit
  case ls =>
    intro sfL stp? olog hl
    have ls := lineSearch_sum hc hl
    exact ⟨ls.coh, ls.scale, ls.mode, ls.nfev_ge, fun hm => Nat.le_succ_of_le (ls.nfev_le hm),
      ls.log.mono fun _ ⟨_, h⟩ => evalAt_loopCall h⟩
  case move =>
    intro sfL stp olog sf f g hl he iL
    obtain ⟨es, -, -⟩ := funAndGrad_sum iL.coh he
    -- the line search evaluates at most `min maxls (maxfun - nfev)` times, the step once more
    exact ⟨es.coh, es.scale.trans iL.scale, es.mode.trans iL.mode,
      Nat.le_trans iL.nfev_ge es.nfev_ge,
      fun hm => Nat.le_trans (es.nfev_le (iL.mode.trans hm))
        (Nat.succ_le_succ ((lineSearch_sum hc hl).nfev_le hm)),
      iL.log.trans (es.log.mono fun _ => evalAt_loopCall)⟩
  case upd =>
    exact fun t _ r _ _ it => { it with
      coh := coh_logCall _ _ it.coh
      log := it.log.trans (LogExt.single _ _ (by simp [LoopCall])) }
  case flags => exact fun t _ _ _ it => it
  case reset => exact fun t it => it
  case mem => exact fun t it => it
  case cb =>
    exact fun t _ _ _ _ it => { it with
      coh := coh_logCall _ _ it.coh
      log := it.log.trans (LogExt.single _ _ (by simp [LoopCall])) }
  case nit => exact fun t it => it

/-- the flags after a pass (`Inv4` reads them, so `iterBody_rule` does not apply), and how a pass
that breaks has set them -/
theorem iterBody_pass {u : User α ε} {o : Oracles α δ} {c : Cfg α} {s s' : St α} {flow : Flow}
    (hi : Inv4 u s) (hs : s.success = false) (h : iterBody u o c s = .ok (s', flow)) :
    Inv4 u s' ∧ (flow = .brk → s'.task = .abnormal ∨ s'.task = .target ∨ s'.task = .ftol) := by
  have hc := (iterBody_sf hi.coh h).coh
  have hgo := hi.going hs
  -- abort | reset | step taken
  obtain ⟨sfL, stp?, olog, -, ⟨-, -, rfl, rfl⟩ | ⟨-, -, rfl, rfl⟩ |
    ⟨stp, x1, sf, f, g, s0, -, -, -, hs0, hrest⟩⟩ := iterBody_cases h
  · exact ⟨Inv4.of_going hc rfl (by simp), fun _ => Or.inl rfl⟩
  · exact ⟨Inv4.of_going hc hs (by simp), nofun⟩
  · -- the update call, if any, leaves the flags alone
    have h0 : s0.success = s.success ∧ s0.task = s.task := by
      rcases hs0 with ⟨-, rfl⟩ | ⟨-, r, -, rfl⟩
      · exact ⟨rfl, rfl⟩
      · exact ⟨rfl, rfl⟩
    rcases hrest with ⟨rfl, t, rfl, ht⟩ | ⟨rfl, rfl | ⟨b, -, -, hb, rfl⟩⟩
    · exact ⟨Inv4.of_halt hc rfl ht, fun _ => Or.inr (ht.imp And.left id)⟩
    · exact ⟨Inv4.of_going hc (h0.1.trans hs) (h0.2 ▸ hgo), nofun⟩
    · refine ⟨?_, nofun⟩
      cases b
      · exact Inv4.of_going hc rfl (by simpa [h0.2] using hgo)
      · -- the callback has said stop, on the state just handed over
        exact ⟨hc, fun _ => Or.inr (Or.inr rfl), fun _ => rfl, nofun,
          fun _ => ⟨_, List.mem_append_right _ (List.mem_singleton_self _), hb⟩, nofun⟩

def LoopExit (c : Cfg α) (s : St α) : Prop :=
  guard c s = false ∨ (s.task = .abnormal ∨ s.task = .target ∨ s.task = .ftol)

structure LoopInv (u : User α ε) (c : Cfg α) (s s' : St α) : Prop where
  inv : Inv4 u s'
  env : SameEnv s s'
  nit_ge : s.nit ≤ s'.nit
  nit_le : s'.nit ≤ max c.maxiter s.nit
  nfev_ge : s.sf.nfev ≤ s'.sf.nfev
  nfev_le : s.sf.mode = .callable → s'.sf.nfev ≤ max c.maxfun s.sf.nfev + 1
  log : LogExt LoopCall s.sf.log s'.sf.log

structure LoopSum (u : User α ε) (c : Cfg α) (s s' : St α) : Prop extends LoopInv u c s s' where
  exit : LoopExit c s'

theorem mainLoop_sum {u : User α ε} {o : Oracles α δ} {c : Cfg α} {fuel : Nat} {s s' : St α}
    (hi : Inv4 u s) (hf : c.maxiter ≤ fuel + s.nit) (h : mainLoop u o c fuel s = .ok s') :
    LoopSum u c s s' := by
  -- the guard gives `nfev < maxfun`, and a pass evaluates at most
  -- `min maxls (maxfun - nfev) + 1` times
  have step : ∀ t t' flow, LoopInv u c s t → guard c t = true →
      iterBody u o c t = .ok (t', flow) → LoopInv u c s t' ∧
        (flow = .brk → t'.task = .abnormal ∨ t'.task = .target ∨ t'.task = .ftol) := by
    rintro t t' flow ⟨i4, env, n1, -, f1, -, lg⟩ hg hb
    obtain ⟨-, hni, hnf, hsu⟩ := guard_iff.1 hg
    obtain ⟨hgt, hft, hnit⟩ := iterBody_frame hb
    have w := iterBody_sf i4.coh hb
    have p := iterBody_pass i4 hsu hb
    have hn : t.nit ≤ t'.nit ∧ t'.nit ≤ t.nit + 1 := by
      split at hnit <;> omega
    refine ⟨⟨p.1, env.trans ⟨hgt, hft, w.scale, w.mode⟩, Nat.le_trans n1 hn.1,
      Nat.le_trans (Nat.le_trans hn.2 hni) (Nat.le_max_left _ _),
      Nat.le_trans f1 w.nfev_ge, fun hm => ?_, lg.trans w.log⟩, p.2⟩
    have := w.nfev_le (env.mode.trans hm)
    exact Nat.le_trans (by omega : t'.sf.nfev ≤ c.maxfun + 1)
      (Nat.succ_le_succ (Nat.le_max_left _ _))
  exact mainLoop_induct (I := LoopInv u c s) (fun t t' hi hg hb => (step t t' _ hi hg hb).1)
    (fun t t' hi hg hb => ⟨(step t t' _ hi hg hb).1, Or.inr ((step t t' _ hi hg hb).2 rfl)⟩)
    (fun t hi hg => ⟨hi, Or.inl hg⟩) fuel s s' hf
    ⟨hi, ⟨rfl, rfl, rfl, rfl⟩, Nat.le_refl _, Nat.le_max_right _ _, Nat.le_refl _,
      fun _ => Nat.le_succ_of_le (Nat.le_max_right _ _), LogExt.refl _⟩ h

theorem classify_sum {u : User α ε} {c : Cfg α} {s1 s : St α} (hi : Inv4 u s1)
    (hx : LoopExit c s1) (hs : s = classify c s1) :
    s.task.documented = true ∧ (s.success = false ↔ s.task = .abnormal) ∧
    (s.task = .pgtol → ¬ s.gtol < projgr s.x s.g c.lb c.ub) ∧
    (s.task = .target → targetReached (s.f / s.sf.scale) s.ftarget = true) ∧
    (s.task = .iterLimit → c.maxiter ≤ s.nit) ∧
    (s.task = .evalLimit → c.maxfun ≤ s.sf.nfev) ∧
    (s.task = .userCallback → ∃ cb ∈ s.cbStates, u.callback cb = .ok true) := by
  rcases classify_cases c s1 with ⟨h1, e⟩ | ⟨-, h2, e⟩ | ⟨-, -, h3, e⟩ | ⟨h1, h2, h3, e⟩
  · obtain rfl := hs.trans e
    exact ⟨rfl, ⟨nofun, nofun⟩, fun _ => h1, nofun, nofun, nofun, nofun⟩
  · obtain rfl := hs.trans e
    exact ⟨rfl, ⟨nofun, nofun⟩, nofun, nofun, fun _ => h2, nofun, nofun⟩
  · obtain rfl := hs.trans e
    exact ⟨rfl, ⟨nofun, nofun⟩, nofun, nofun, nofun, fun _ => h3, nofun⟩
  · rw [hs.trans e]
    -- none of the three tests fired, so the guard failed on `success`, or a pass broke
    have htask : s1.task = .abnormal ∨
        (s1.task = .target ∨ s1.task = .ftol ∨ s1.task = .userCallback) := by
      rcases hx with hg | hb | hb | hb
      · have hsucc : ¬ s1.success = false := fun hf =>
          Bool.false_ne_true (hg.symm.trans (guard_iff.2 ⟨h1, h2, h3, hf⟩))
        exact Or.inr (hi.succ_task (by simpa using hsucc))
      · exact Or.inl hb
      · exact Or.inr (Or.inl hb)
      · exact Or.inr (Or.inr (Or.inl hb))
    have hdoc : s1.task.documented = true ∧ s1.task ≠ .pgtol ∧ s1.task ≠ .iterLimit ∧
        s1.task ≠ .evalLimit := by
      rcases htask with ht | ht | ht | ht <;> simp [ht, Msg.documented]
    exact ⟨hdoc.1, ⟨fun hf => htask.resolve_right fun ht => by simp [hi.task_succ ht] at hf, hi.abn⟩,
      fun hm => absurd hm hdoc.2.1, hi.target_true, fun hm => absurd hm hdoc.2.2.1,
      fun hm => absurd hm hdoc.2.2.2, hi.cb_true⟩

/-- what C04 says of a run: the report is documented and true of the returned state, the budgets
are respected, the callable thresholds are evaluated once -/
structure RunSum (u : User α ε) (c : Cfg α) (r : Result α) (s : St α) : Prop where
  documented : r.msg.documented = true
  success_iff : r.success = false ↔ r.msg = .abnormal
  pgtol : r.msg = .pgtol → ¬ s.gtol < projgr r.x r.jac c.lb c.ub
  target : r.msg = .target → targetReached (r.f / s.sf.scale) s.ftarget = true
  iterLimit : r.msg = .iterLimit → c.maxiter ≤ r.nit
  evalLimit : r.msg = .evalLimit → c.maxfun ≤ r.nfev
  userCallback : r.msg = .userCallback → ∃ cb ∈ s.cbStates, u.callback cb = .ok true
  gtol : ThreshVal u.gtolFn c.gtol s.gtol
  ftarget : match c.ftarget with
    | none => s.ftarget = none
    | some t => ∃ a, s.ftarget = some a ∧ ThreshVal u.ftargetFn t a
  nit_le : r.nit ≤ max c.maxiter (nit0 c)
  nfev_le : c.mode = .callable → r.nfev ≤ max c.maxfun (nfev0 c) + 1
  n_gtol : countK .gtol s.sf.log = if isCallableT c.gtol then 1 else 0
  n_ftarget : countK .ftarget s.sf.log =
    match c.ftarget with | some t => (if isCallableT t then 1 else 0) | none => 0

theorem minimize_sum {u : User α ε} {o : Oracles α δ} {c : Cfg α} {r : Result α} {s : St α}
    (h : minimize u o c = .ok (r, s)) : RunSum u c r s := by
  obtain ⟨i, hi, hrun⟩ := minimize_ok.1 h
  have is := initEval_sum hi
  rcases hrun with ⟨ht, he⟩ | ⟨-, s0, s1, h0, h1, rfl, rfl⟩
  · -- the start already satisfies the target
    obtain ⟨hf, -, hm, hs, hnit, hnf, hsf, hg, hft⟩ := earlyResult_sum is he
    have htr : targetReached (r.f / s.sf.scale) s.ftarget = true := by
      rw [hf, hsf, hft]
      exact ht
    exact ⟨(congrArg Msg.documented hm).trans rfl, by simp [hm, hs], by simp [hm], fun _ => htr,
      by simp [hm], by simp [hm], by simp [hm], hg ▸ is.gtol, hft ▸ is.ftarget,
      hnit ▸ Nat.le_max_right _ _, fun _ => hnf ▸ Nat.le_succ_of_le (Nat.le_max_right _ _),
      hsf ▸ is.n_gtol, hsf ▸ is.n_ftarget⟩
  · have ps := prepare_sum is.coh h0
    have ls := mainLoop_sum ps.inv (by omega) h1
    -- the classification rewrites the report fields only
    obtain ⟨t, su, w, e⟩ := classify_eq c s1
    obtain ⟨hd, hsi, hp, ht, hil, hel, hcb⟩ := classify_sum ls.inv ls.exit e.symm
    rw [e]
    have hl := countK_ext (ps.log.trans (ls.log.mono fun _ h => h.notThresh))
    refine ⟨hd, hsi, hp, ht, hil, hel, hcb, (ls.env.gtol.trans ps.gtol) ▸ is.gtol,
      (ls.env.ftarget.trans ps.ftarget) ▸ is.ftarget, (ps.nit.trans is.nit) ▸ ls.nit_le,
      fun hm => ?_, hl.2.trans is.n_gtol, hl.1.trans is.n_ftarget⟩
    have hmi : i.sf.mode = .callable := is.mode.trans hm
    exact is.nfev ▸ ps.nfev_eq hmi ▸ ls.nfev_le (ps.mode.trans hmi)

end Lbfgsb
