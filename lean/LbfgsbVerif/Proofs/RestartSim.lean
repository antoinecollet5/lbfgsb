/-
  C06/C07: a restart continues the run. Simulation between the loop of the uninterrupted run, taken
  at the state the checkpoint was made from, and the loop of the restart (level U; exact arithmetic
  enters only where the restart's state is rebuilt, Proofs/Restart.lean): the first
  pass of the first line search is the special step, after it the ghost instance of Proofs/Sim.lean
  applies. A restarted wrapper knows the point but has no cached value; the cached values of the
  original are never read once the wrapper moves to another point.
-/
import LbfgsbVerif.Proofs.Ghost

namespace Lbfgsb
variable {α ε δ : Type}

section sf
variable [LT α] [DecidableLT α] [Mul α] [OfNat α 0]

theorem updFun_stale (u : SFUser α ε) {a b : SF α}
    (h : ({ a with f := 0, g := [], log := [] } : SF α) = { b with f := 0, g := [], log := [] })
    (hf : a.fUpd = false) :
    RelE (fun p q => Gh False p q ∧ p.gUpd = a.gUpd) (a.updFun u) (b.updFun u) := by
  obtain ⟨f', g', l', rfl⟩ : ∃ f g l, b = { a with f := f, g := g, log := l } := ⟨b.f, b.g, b.log,
    show b = { ({ a with f := 0, g := [], log := [] } : SF α) with f := b.f, g := b.g, log := b.log } by rw [h]⟩
  unfold SF.updFun
  dsimp only
  refine rel_ite (fun hft => absurd (hf.symm.trans hft) Bool.false_ne_true) fun _ => ?_
  unfold SF.callF
  refine RelE.bind (R := fun r q => (∃ f g l, q.1 = { r.1 with f := f, g := g, log := l }) ∧
      r.1.gUpd = a.gUpd ∧ r.2 = q.2) (RelE.bind (R := Eq) (RelE.refl _) ?_) ?_
  · rintro v _ rfl
    exact RelE.pure ⟨⟨_, _, _, rfl⟩, rfl, rfl⟩
  · rintro ⟨p1, p2⟩ ⟨q1, q2⟩ ⟨⟨f, g, l, e⟩, hgu, h2⟩
    dsimp only at e hgu h2
    subst e h2
    exact RelE.pure ⟨⟨l, g, rfl, False.elim⟩, hgu⟩

/-- the value request overwrites the stale value (`updFun_stale`), the gradient request the stale gradient
(`updGrad_gh`), and neither reads what it overwrites -/
theorem fg_stale (u : SFUser α ε) (a b : SF α)
    (h : ({ a with f := 0, g := [], log := [] } : SF α) = { b with f := 0, g := [], log := [] })
    (hf : a.fUpd = false) (hg : a.gUpd = false) :
    erR (do let s ← a.updFun u; let s ← s.updGrad u; pure (s, s.f * s.scale, vscale s.g s.scale)) =
    erR (do let s ← b.updFun u; let s ← s.updGrad u; pure (s, s.f * s.scale, vscale s.g s.scale)) := by
  unfold erR
  apply (RelE.iff_map_eq _).1
  refine RelE.bind (updFun_stale u h hf) ?_
  rintro p q ⟨hpq, hgu⟩
  refine RelE.bind (updGrad_gh u hpq (Or.inr (hgu.trans hg))) ?_
  rintro p' q' ⟨l, g, rfl, hg'⟩
  rw [hg' trivial]
  exact RelE.pure rfl

/-- `a` the wrapper of the run, `b` the one a restart builds: all but the cache and the log agree -/
structure SFR (a b : SF α) : Prop where
  mode : a.mode = b.mode
  lb : a.lb = b.lb
  ub : a.ub = b.ub
  x : a.x = b.x
  nfev : a.nfev = b.nfev
  ngev : a.ngev = b.ngev
  scale : a.scale = b.scale

theorem funAndGrad_fresh (u : SFUser α ε) (a b : SF α) (hr : SFR a b) (p : Vec α) (hp : veq p a.x = false) :
    erR (a.funAndGrad u p) = erR (b.funAndGrad u p) := by
  have e : ∀ t : SF α, veq p t.x = false → t.updateX p = { t with x := p, fUpd := false, gUpd := false } := by
    intro t ht
    unfold SF.updateX
    rw [ht]
    rfl
  unfold SF.funAndGrad
  rw [e a hp, e b (hr.x ▸ hp)]
  apply fg_stale u _ _ _ rfl rfl
  simp only [hr.mode, hr.lb, hr.ub, hr.nfev, hr.ngev, hr.scale]

end sf
section driver
variable [Add α] [Sub α] [Mul α] [Div α] [Neg α] [LT α] [DecidableLT α] [OfNat α 0] [OfNat α 1] [FloatLike α]

/-- the first step of the line search of the iteration evaluates the objective, at a point that is
not the current iterate (the step is positive and the direction moves some variable) -/
def FirstEval (o : Oracles α δ) (c : Cfg α) (x0 : Vec α) (f0 : α) (g0 d : Vec α) (nit : Nat) (maxIter : Nat) : Prop :=
  let maxStep := maxAllowedStep x0 d c.lb c.ub c.maxStep nit
  let stp0 : α := if nit = 0 ∧ !(isBoxed c.lb c.ub) then fmin (1 / FloatLike.sqrt (dot d d)) maxStep else 1
  let r := o.dcIter (o.dcNew x0 d c.ftolLS c.gtolLS c.xtolLS maxStep) stp0 f0 (dot g0 d) .start
  0 < maxIter ∧ r.2.2 = .fg ∧ veq (trial x0 d c.lb c.ub r.2.1) x0 = false

/-- the first pass is `lsStep_sim` with the evaluation related by `funAndGrad_fresh` (it is an evaluation, so
`hno` is vacuous); after it the wrappers are equal up to the log and `lsLoop_sim` at `er_wrel` applies. The
kernel-request logs differ from the start (`olog`, `olog'`): the comparison erases them and keeps the triple -/
theorem lineSearch_fresh (u : User α ε) (o : Oracles α δ) (c : Cfg α) (x0 : Vec α) (f0 : α) (g0 d : Vec α)
    (nit : Nat) (sfA sfB : SF α) (maxIter : Nat) (olog olog' : List (OReq α)) (hr : SFR sfA sfB) (hx : sfA.x = x0)
    (hfe : FirstEval o c x0 f0 g0 d nit maxIter) :
    (lineSearch u o c x0 f0 g0 d nit sfA maxIter olog).map (fun p => (p.1.er, p.2.1, ([] : List (OReq α)))) =
    (lineSearch u o c x0 f0 g0 d nit sfB maxIter olog').map (fun p => (p.1.er, p.2.1, ([] : List (OReq α)))) := by
  obtain ⟨hpos, hfg, hp⟩ := hfe
  obtain ⟨n, rfl⟩ : ∃ n, maxIter = n + 1 := ⟨maxIter - 1, by omega⟩
  apply (RelE.iff_map_eq _).1
  rw [lineSearch_eq, lineSearch_eq]
  refine RelE.bind_fst (lsLoop_succ_sim x0 d c.lb c.ub n (fun h => lsLoop_sim (er_wrel _) x0 d c.lb c.ub n h)
    (lsStep_sim (W := fun a b : SF α => a.er = b.er) x0 d c.lb c.ub (ls0 o c x0 f0 g0 d nit sfA olog) sfB olog'
      ((RelE.iff_map_eq (fun p : SF α × α × Vec α => (p.1.er, p.2))).2
        (funAndGrad_fresh u.toSFUser sfA sfB hr _ (hx ▸ hp)) |>.mono fun _ _ e => Prod.mk.inj e)
      (fun hn => absurd hfg hn))) fun _ _ p2 h1 => ?_
  exact (lsPost_sim p2 h1).mono fun _ _ h => by rw [h.1, h.2]

/-- the restart's loop state: the state the checkpoint was taken from, with the restart's wrapper and ghost logs -/
def reState (s : St α) (sfB : SF α) (cbs : List (Result α)) (ol : List (OReq α)) : St α :=
  { s with sf := sfB, cbStates := cbs, olog := ol }

/-- `St.er` (Proofs/Ghost.lean) erases the ghost lists; `er2` also erases the wrapper's cache, which a restarted
wrapper does not have -/
def St.er2 (s : St α) : St α :=
  { s with cbStates := [], olog := [], sf := { s.sf with log := [], f := 0, g := [], fUpd := false, gUpd := false } }

theorem St.er2_of_er {s t : St α} (h : s.er = t.er) : s.er2 = t.er2 := by
  obtain ⟨lg, cbs, ol, rfl⟩ := St.exists_ghost h
  rfl

theorem StRel.of_er2 {s t : St α} (h : s.er2 = t.er2) :
    StRel (fun a b : SF α => a.nfev = b.nfev ∧ a.ngev = b.ngev) s t := by
  have ht : t = { s.er2 with
      cbStates := t.cbStates
      olog := t.olog
      sf := { s.er2.sf with log := t.sf.log, f := t.sf.f, g := t.sf.g, fUpd := t.sf.fUpd, gUpd := t.sf.gUpd } } := by
    rw [h]
    rfl
  exact ⟨_, _, _, ht, rfl, rfl⟩

/-- the two configurations may differ in what the loop does not read (checkpoint and start point of the
restart); the first pass goes by `lineSearch_fresh`, from its result on the ghost instance applies -/
theorem mainLoop_fresh_cfg (u : User α ε) (o : Oracles α δ) (hcb : ∀ r, u.callback r = .ok false)
    {c c' : Cfg α}
    (hc : LoopCfg c c') (hU : c'.hasUpdate = c.hasUpdate)
    (fuel : Nat) (s : St α) (sfB : SF α) (cbs : List (Result α)) (ol : List (OReq α)) (hr : SFR s.sf sfB)
    (hx : s.sf.x = s.x)
    (hfe : guard c s = true → FirstEval o c s.x s.f s.g (vsub (o.xbar s.x s.g s.mats) s.x) s.nit
      (min c.maxls (c.maxfun - s.sf.nfev))) :
    (mainLoop u o c fuel s).map St.er2 = (mainLoop u o c' fuel (reState s sfB cbs ol)).map St.er2 := by
  have H := ghost_hooks u hcb hc hU
  have hsame : s.er2 = (reState s sfB cbs ol).er2 := by
    simp only [St.er2, reState, hr.mode, hr.lb, hr.ub, hr.x, hr.nfev, hr.ngev, hr.scale]
  have hguard : guard c' (reState s sfB cbs ol) = guard c s := by
    rw [hc]
    simp only [guard, reState, hr.nfev]
    rfl
  apply (RelE.iff_map_eq St.er2).1
  cases fuel with
  | zero => exact RelE.pure hsame
  | succ n =>
    simp only [mainLoop]
    rw [hguard]
    split
    · rename_i hg
      refine RelE.bind (iterBody_sim_of H s sfB cbs ol trivial ?_) ?_
      · rw [hc.maxls, hc.maxfun, ← hr.nfev, lineSearch_cfg hc]
        exact ((RelE.iff_map_eq _).2 (lineSearch_fresh u o c _ _ _ _ _ s.sf sfB _ _ _ hr hx (hfe hg))).mono
          fun _ _ e => ⟨(Prod.mk.inj e).1, (Prod.mk.inj (Prod.mk.inj e).2).1⟩
      rintro ⟨p1, p2⟩ ⟨q1, q2⟩ ⟨⟨h1, -⟩, h2⟩
      dsimp only at h1 h2
      subst h2
      cases p2 with
      | brk => exact RelE.pure (St.er2_of_er h1.er)
      | next => exact (mainLoop_sim H n h1 trivial).mono fun _ _ h => St.er2_of_er h.1.er
    · exact RelE.pure hsame

theorem mainLoop_fresh (u : User α ε) (o : Oracles α δ) (hcb : ∀ r, u.callback r = .ok false) (c : Cfg α) (b : Bool)
    (fuel : Nat) (s : St α) (sfB : SF α) (cbs : List (Result α)) (ol : List (OReq α)) (hr : SFR s.sf sfB)
    (hx : s.sf.x = s.x)
    (hfe : guard (c.cb b) s = true → FirstEval o (c.cb b) s.x s.f s.g (vsub (o.xbar s.x s.g s.mats) s.x) s.nit
      (min c.maxls (c.maxfun - s.sf.nfev))) :
    (mainLoop u o (c.cb b) fuel s).map St.er2 = (mainLoop u o (c.cb b) fuel (reState s sfB cbs ol)).map St.er2 :=
  mainLoop_fresh_cfg u o hcb (loopCfg_cb c b b) rfl fuel s sfB cbs ol hr hx hfe

end driver

end Lbfgsb
