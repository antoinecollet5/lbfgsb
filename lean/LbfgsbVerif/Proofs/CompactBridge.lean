/-
  The two forms of the compact representation are the same matrices up to the order of the columns:
  the bordered form of Proofs/CompactBfgs.lean (index type `Idx l`, built pair after pair — the one
  Byrd–Nocedal–Schnabel's theorem is proved for) and the block form `W = [Y θS]`, `N = [[−D, Lᵀ],[L, θSᵀS]]` of
  Proofs/CompactSecant.lean (index type `Fin m ⊕ Fin m` — the one the source and the list model build).
-/
import LbfgsbVerif.Props.C10Compact

namespace Lbfgsb.CompactBridge
open Matrix CompactBfgs
variable {n : Type} [Fintype n] [DecidableEq n]
variable {K : Type} [Field K]

/-- the `s` of the pair number `j` counted from the oldest (the list is newest first) -/
def sOf : (l : List ((n → K) × (n → K))) → Fin l.length → (n → K)
  | p :: l', j => Fin.lastCases p.1 (fun j' => sOf l' j') j

def yOf : (l : List ((n → K) × (n → K))) → Fin l.length → (n → K)
  | p :: l', j => Fin.lastCases p.2 (fun j' => yOf l' j') j

def Smat (l : List ((n → K) × (n → K))) : Matrix n (Fin l.length) K := Matrix.of fun r j => sOf l j r
def Ymat (l : List ((n → K) × (n → K))) : Matrix n (Fin l.length) K := Matrix.of fun r j => yOf l j r

/-- which column of the block form a column of the bordered form is: `inl j` = `y_j`, `inr j` = `θ s_j` -/
def desc : (l : List ((n → K) × (n → K))) → Idx l → Fin l.length ⊕ Fin l.length
  | [], c => c.elim
  | _ :: l', c => match c with
    | .inl (.inl a) => Sum.map Fin.castSucc Fin.castSucc (desc l' a)
    | .inl (.inr _) => .inr (Fin.last _)
    | .inr _ => .inl (Fin.last _)

theorem sOf_castSucc (p : (n → K) × (n → K)) (l : List ((n → K) × (n → K))) (j : Fin l.length) :
    sOf (p :: l) (Fin.castSucc j) = sOf l j :=
  Fin.lastCases_castSucc ..

theorem sOf_last (p : (n → K) × (n → K)) (l : List ((n → K) × (n → K))) :
    sOf (p :: l) (Fin.last _) = p.1 :=
  Fin.lastCases_last

theorem yOf_castSucc (p : (n → K) × (n → K)) (l : List ((n → K) × (n → K))) (j : Fin l.length) :
    yOf (p :: l) (Fin.castSucc j) = yOf l j :=
  Fin.lastCases_castSucc ..

theorem yOf_last (p : (n → K) × (n → K)) (l : List ((n → K) × (n → K))) :
    yOf (p :: l) (Fin.last _) = p.2 :=
  Fin.lastCases_last

theorem Wl_eq (θ : K) : ∀ (l : List ((n → K) × (n → K))) (r : n) (c : Idx l),
    Wl θ l r c = Compact.W (Smat l) (Ymat l) θ r (desc l c) := by
  intro l
  induction l with
  | nil => exact fun r c => c.elim
  | cons p l' ih =>
    intro r c
    match c with
    | .inl (.inl a) =>
      show Wl θ l' r a = Compact.W _ _ θ r (Sum.map Fin.castSucc Fin.castSucc (desc l' a))
      rw [ih r a]
      cases desc l' a with
      | inl j => simp only [Sum.map_inl, Compact.W_inl, Ymat, of_apply, yOf_castSucc]
      | inr j => simp only [Sum.map_inr, Compact.W_inr, Smat, of_apply, sOf_castSucc]
    | .inl (.inr _) =>
      show θ * p.1 r = Compact.W _ _ θ r (.inr (Fin.last _))
      rw [Compact.W_inr, Smat, of_apply, sOf_last]
    | .inr _ =>
      show p.2 r = Compact.W _ _ θ r (.inl (Fin.last _))
      rw [Compact.W_inl, Ymat, of_apply, yOf_last]

/-- the entries of the block middle matrix `[[−D, Lᵀ],[L, θSᵀS]]` -/
def Nent (θ : K) (l : List ((n → K) × (n → K))) : Fin l.length ⊕ Fin l.length → Fin l.length ⊕ Fin l.length → K
  | .inl i, .inl j => if i = j then -(sOf l i ⬝ᵥ yOf l i) else 0
  | .inl i, .inr j => if i < j then sOf l j ⬝ᵥ yOf l i else 0
  | .inr i, .inl j => if j < i then sOf l i ⬝ᵥ yOf l j else 0
  | .inr i, .inr j => θ * (sOf l i ⬝ᵥ sOf l j)

theorem A_Smat (l : List ((n → K) × (n → K))) (i j : Fin l.length) :
    Compact.A (Smat l) (Ymat l) i j = sOf l i ⬝ᵥ yOf l j := rfl

theorem StS_Smat (l : List ((n → K) × (n → K))) (i j : Fin l.length) :
    ((Smat l)ᵀ * Smat l) i j = sOf l i ⬝ᵥ sOf l j := rfl

theorem N_eq_Nent (θ : K) (l : List ((n → K) × (n → K))) (c d : Fin l.length ⊕ Fin l.length) :
    Compact.N (Smat l) (Ymat l) θ c d = Nent θ l c d := by
  -- in the diagonal block `N` has `-(if i = j then … else 0)`
  match c, d with
  | .inl i, .inl j => exact (apply_ite Neg.neg ..).trans (congrArg _ neg_zero)
  | .inl i, .inr j => rfl
  | .inr i, .inl j => rfl
  | .inr i, .inr j => rfl

theorem Nent_castSucc (θ : K) (p : (n → K) × (n → K)) (l : List ((n → K) × (n → K))) (c d : Fin l.length ⊕ Fin l.length) :
    Nent θ (p :: l) (Sum.map Fin.castSucc Fin.castSucc c) (Sum.map Fin.castSucc Fin.castSucc d) = Nent θ l c d := by
  -- `castSucc` keeps the columns and respects `=` and `<`
  match c, d with
  | .inl i, .inl j => simp only [Sum.map_inl, Nent, sOf_castSucc, yOf_castSucc, Fin.castSucc_inj]
  | .inl i, .inr j => simp only [Sum.map_inl, Sum.map_inr, Nent, sOf_castSucc, yOf_castSucc, Fin.castSucc_lt_castSucc_iff]
  | .inr i, .inl j => simp only [Sum.map_inl, Sum.map_inr, Nent, sOf_castSucc, yOf_castSucc, Fin.castSucc_lt_castSucc_iff]
  | .inr i, .inr j => simp only [Sum.map_inr, Nent, sOf_castSucc]

theorem Nl_eq (θ : K) : ∀ (l : List ((n → K) × (n → K))) (c d : Idx l),
    Nl θ l c d = Nent θ l (desc l c) (desc l d) := by
  intro l
  induction l with
  | nil => exact fun c => c.elim
  | cons p l' ih =>
    have hw : ∀ a : Idx l', ((Wl θ l')ᵀ *ᵥ p.1) a =
        Nent θ (p :: l') (Sum.map Fin.castSucc Fin.castSucc (desc l' a)) (.inr (Fin.last _)) := by
      intro a
      -- column `a` of the bordered `W` is `y_j` or `θ s_j`
      show (fun r => Wl θ l' r a) ⬝ᵥ p.1 = _
      simp only [Wl_eq θ l']
      cases desc l' a with
      | inl j =>
        simp only [Sum.map_inl, Nent, Fin.castSucc_lt_last, if_true, sOf_last, yOf_castSucc]
        exact dotProduct_comm _ _
      | inr j =>
        simp only [Sum.map_inr, Nent, sOf_last, sOf_castSucc]
        exact smul_dotProduct θ (sOf l' j) p.1
    have hsym : ∀ c : Fin l'.length ⊕ Fin l'.length,
        Nent θ (p :: l') (.inr (Fin.last _)) (Sum.map Fin.castSucc Fin.castSucc c) =
        Nent θ (p :: l') (Sum.map Fin.castSucc Fin.castSucc c) (.inr (Fin.last _)) := by
      intro c
      cases c with
      | inl j => simp only [Sum.map_inl, Nent]
      | inr j => simp only [Sum.map_inr, Nent, dotProduct_comm]
    intro c d
    -- content: old × old (induction), old × `s` and `s` × old (the bordering column `hw`); the other six are zeros or `rfl`-like
    match c, d with
    | .inl (.inl a), .inl (.inl b) =>
      simp only [Nl, extN, of_apply, desc]
      rw [ih a b, Nent_castSucc]
    | .inl (.inl a), .inl (.inr _) =>
      simp only [Nl, extN, of_apply, desc]
      exact hw a
    | .inl (.inr _), .inl (.inl b) =>
      simp only [Nl, extN, of_apply, desc]
      rw [hsym]
      exact hw b
    | .inl (.inr _), .inl (.inr _) =>
      simp only [Nl, extN, of_apply, desc, Nent, sOf_last]
    | .inr _, .inr _ =>
      simp only [Nl, extN, of_apply, desc, Nent, sOf_last, yOf_last, if_true]
    | .inl (.inl a), .inr _ =>
      simp only [Nl, extN, of_apply, desc]
      cases desc l' a with
      | inl j => simp only [Nent, Sum.map_inl, Fin.castSucc_ne_last, if_false]
      | inr j =>
        have : ¬ Fin.last l'.length < j.castSucc := not_lt.mpr (Fin.le_last _)
        simp only [Nent, Sum.map_inr, this, if_false]
    | .inr _, .inl (.inl b) =>
      simp only [Nl, extN, of_apply, desc]
      cases desc l' b with
      | inl j => simp only [Nent, Sum.map_inl, (Fin.castSucc_ne_last j).symm, if_false]
      | inr j =>
        have : ¬ Fin.last l'.length < j.castSucc := not_lt.mpr (Fin.le_last _)
        simp only [Nent, Sum.map_inr, this, if_false]
    | .inl (.inr _), .inr _ =>
      simp only [Nl, extN, of_apply, desc, Nent, lt_self_iff_false, if_false]
    | .inr _, .inl (.inr _) =>
      simp only [Nl, extN, of_apply, desc, Nent, lt_self_iff_false, if_false]

theorem desc_surjective : ∀ l : List ((n → K) × (n → K)), Function.Surjective (desc (K := K) l) := by
  intro l
  induction l with
  | nil => exact fun t => t.elim (fun j => j.elim0) fun j => j.elim0
  | cons p l' ih =>
    -- an old column of either half is reached by an old index, the two last columns by the two new indices
    have hold : ∀ t, ∃ a, desc (p :: l') a = Sum.map Fin.castSucc Fin.castSucc t := fun t =>
      (ih t).imp' (fun a => .inl (.inl a)) fun a ha => congrArg (Sum.map Fin.castSucc Fin.castSucc) ha
    rintro (j | j)
    · induction j using Fin.lastCases with
      | last => exact ⟨.inr (), rfl⟩
      | cast j' => exact hold (.inl j')
    · induction j using Fin.lastCases with
      | last => exact ⟨.inl (.inr ()), rfl⟩
      | cast j' => exact hold (.inr j')

theorem card_Idx : ∀ l : List ((n → K) × (n → K)), Fintype.card (Idx l) = l.length + l.length
  | [] => rfl
  | _ :: l' => by
    show Fintype.card ((Idx l' ⊕ Unit) ⊕ Unit) = _
    rw [Fintype.card_sum, Fintype.card_sum, card_Idx l', Fintype.card_unit, List.length_cons]
    omega

/-- `desc` is onto a type of the same size -/
noncomputable def descEquiv (l : List ((n → K) × (n → K))) : Idx l ≃ Fin l.length ⊕ Fin l.length :=
  Equiv.ofBijective (desc l) ((Fintype.bijective_iff_surjective_and_card _).2
    ⟨desc_surjective l, by rw [card_Idx, Fintype.card_sum, Fintype.card_fin]⟩)

theorem W_submatrix (θ : K) (l : List ((n → K) × (n → K))) :
    Compact.W (Smat l) (Ymat l) θ = (Wl θ l).submatrix id (descEquiv l).symm := by
  funext r c
  exact ((Wl_eq θ l r _).trans (congrArg _ ((descEquiv l).apply_symm_apply c))).symm

theorem N_submatrix (θ : K) (l : List ((n → K) × (n → K))) :
    Compact.N (Smat l) (Ymat l) θ = (Nl θ l).submatrix (descEquiv l).symm (descEquiv l).symm := by
  funext c d
  rw [submatrix_apply, Nl_eq θ l, N_eq_Nent]
  exact congrArg₂ _ ((descEquiv l).apply_symm_apply c).symm ((descEquiv l).apply_symm_apply d).symm

variable [LinearOrder K] [IsStrictOrderedRing K]

theorem block_N_inv (θ : K) (l : List ((n → K) × (n → K))) (hnd : NonDeg θ l) :
    Compact.N (Smat l) (Ymat l) θ * (Ninvl θ l).submatrix (descEquiv l).symm (descEquiv l).symm = 1 := by
  rw [N_submatrix, submatrix_mul_equiv, (CompactBfgs.compact_eq_bfgs θ l hnd).1, submatrix_one_equiv]

theorem block_compact_core (θ : K) (l : List ((n → K) × (n → K))) (hnd : NonDeg θ l)
    (Mb : Matrix (Fin l.length ⊕ Fin l.length) (Fin l.length ⊕ Fin l.length) K)
    (hMb : Mb * Compact.N (Smat l) (Ymat l) θ = 1) :
    θ • (1 : Matrix n n K) - Compact.W (Smat l) (Ymat l) θ * Mb * (Compact.W (Smat l) (Ymat l) θ)ᵀ = bfgsRev θ l := by
  -- a left inverse is the inverse
  rw [← (CompactBfgs.compact_eq_bfgs θ l hnd).2.2, left_inv_eq_right_inv hMb (block_N_inv θ l hnd), W_submatrix,
    transpose_submatrix, submatrix_mul_equiv, submatrix_mul_equiv, submatrix_id_id]

/-- **Byrd–Nocedal–Schnabel for the block form** `W = [Y θS]`, `N = [[−D, Lᵀ],[L, θSᵀS]]`, with `Mb` any left inverse of `N`
(`ps` lists the pairs oldest first). -/
theorem block_compact_eq_bfgs (θ : K) (hθ : 0 < θ) (ps : List ((n → K) × (n → K)))
    (hp : ∀ p ∈ ps, p.1 ≠ 0 ∧ 0 < p.1 ⬝ᵥ p.2)
    (Mb : Matrix (Fin ps.reverse.length ⊕ Fin ps.reverse.length) (Fin ps.reverse.length ⊕ Fin ps.reverse.length) K)
    (hMb : Mb * Compact.N (Smat ps.reverse) (Ymat ps.reverse) θ = 1) :
    θ • (1 : Matrix n n K) - Compact.W (Smat ps.reverse) (Ymat ps.reverse) θ * Mb *
        (Compact.W (Smat ps.reverse) (Ymat ps.reverse) θ)ᵀ = C10.bfgsChain (θ • (1 : Matrix n n K)) ps ∧
    C10.SPD (C10.bfgsChain (θ • (1 : Matrix n n K)) ps) := by
  obtain ⟨hnd, hspd⟩ := C10.nonDeg_of_curvature θ hθ ps.reverse (fun p hq => hp p (List.mem_reverse.1 hq))
  rw [block_compact_core θ ps.reverse hnd Mb hMb, ← C10.bfgsRev_reverse]
  exact ⟨rfl, hspd⟩

end Lbfgsb.CompactBridge
