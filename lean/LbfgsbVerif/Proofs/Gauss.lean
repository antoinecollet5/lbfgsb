/-
  Correctness of the Gauss–Jordan elimination of the model (`gaussSolve`, Model/Compact.lean) over a field: when no pivot
  vanishes, the vector it returns solves the system — whichever row the partial pivoting selects. Every step maps the
  solution set of the system of the rows onto itself (backwards for a non-zero pivot); after step `k` the columns `0..k`
  of the left block are unit vectors; after `n` steps the last column solves the final system, hence the original one.
-/
import Mathlib.Algebra.BigOperators.Field
import Mathlib.Algebra.BigOperators.Intervals
import LbfgsbVerif.Model.Compact
import LbfgsbVerif.Proofs.BasicF
import Mathlib.Data.List.GetD

namespace Lbfgsb.Gauss
open Lbfgsb
variable {K : Type} [Field K] [LinearOrder K]

def ent (M : List (Vec K)) (i j : Nat) : K := (M.getD i []).getD j 0

/-- an augmented matrix: `n` rows of `n + 1` entries -/
structure WF (n : Nat) (M : List (Vec K)) : Prop where
  len : M.length = n
  row : ∀ i, i < n → (M.getD i []).length = n + 1

theorem swap_lt {n k piv r : Nat} (hk : k < n) (hp : piv < n) (hr : r < n) : Equiv.swap k piv r < n := by
  rw [Equiv.swap_apply_def]
  split
  · exact hp
  · split
    · exact hk
    · exact hr

theorem swapRows_getD (M : List (Vec K)) (i j r : Nat) (hi : i < M.length) (hj : j < M.length) :
    (swapRows M i j).getD r [] = M.getD (Equiv.swap i j r) [] := by
  unfold swapRows
  rw [getD_set, getD_set, List.length_set, Equiv.swap_comm, Equiv.swap_apply_def, apply_ite (M.getD · []),
    apply_ite (M.getD · [])]
  simp only [hi, hj, and_true, eq_comm (b := r)]

theorem swapRows_length (M : List (Vec K)) (i j : Nat) : (swapRows M i j).length = M.length := by
  simp [swapRows]

theorem swapRows_wf {n : Nat} {M : List (Vec K)} (h : WF n M) (i j : Nat) (hi : i < n) (hj : j < n) :
    WF n (swapRows M i j) := by
  refine ⟨by rw [swapRows_length, h.len], fun r hr => ?_⟩
  rw [swapRows_getD M i j r (h.len.symm ▸ hi) (h.len.symm ▸ hj)]
  exact h.row _ (swap_lt hi hj hr)

theorem foldl_argmax {β : Type} (f : β → K) (l : List β) (p0 : β) :
    l.foldl (fun p i => if f p < f i then i else p) p0 ∈ p0 :: l ∧
      ∀ j ∈ p0 :: l, f j ≤ f (l.foldl (fun p i => if f p < f i then i else p) p0) := by
  induction l generalizing p0 with
  | nil => exact ⟨List.mem_cons_self, fun j hj => (congrArg f (List.mem_singleton.1 hj)).le⟩
  | cons a t ih =>
    rw [List.foldl_cons]
    by_cases hlt : f p0 < f a
    · rw [if_pos hlt]
      obtain ⟨h1, h2⟩ := ih a
      exact ⟨List.mem_cons_of_mem _ h1, List.forall_mem_cons.2 ⟨hlt.le.trans (h2 a List.mem_cons_self), h2⟩⟩
    · rw [if_neg hlt]
      obtain ⟨h1, h2⟩ := ih p0
      obtain ⟨hp, ht⟩ := List.forall_mem_cons.1 h2
      exact ⟨List.mem_cons.2 ((List.mem_cons.1 h1).imp_right (List.mem_cons_of_mem a)),
        List.forall_mem_cons.2 ⟨hp, List.forall_mem_cons.2 ⟨(not_lt.1 hlt).trans hp, ht⟩⟩⟩

theorem foldl_argmax_congr {β : Type} (f g : β → K) (l : List β) (p0 : β) (h : ∀ j ∈ p0 :: l, f j = g j) :
    l.foldl (fun p i => if f p < f i then i else p) p0 = l.foldl (fun p i => if g p < g i then i else p) p0 := by
  induction l generalizing p0 with
  | nil => rfl
  | cons a t ih =>
    obtain ⟨h0, h1⟩ := List.forall_mem_cons.1 h
    obtain ⟨ha, ht⟩ := List.forall_mem_cons.1 h1
    rw [List.foldl_cons, List.foldl_cons, h0, ha]
    refine ih _ (List.forall_mem_cons.2 ⟨?_, ht⟩)
    split
    · exact ha
    · exact h0

theorem pivotIdx_eq (M : List (Vec K)) (k n : Nat) :
    pivotIdx M k n = (List.range' k (n - k)).foldl (fun p i => if fabs (ent M p k) < fabs (ent M i k) then i else p) k := rfl

theorem mem_pivotCands {k n j : Nat} (hk : k < n) : j ∈ k :: List.range' k (n - k) ↔ k ≤ j ∧ j < n := by
  rw [List.mem_cons, List.mem_range'_1]
  omega

theorem pivotIdx_range (M : List (Vec K)) (k n : Nat) (hk : k < n) :
    k ≤ pivotIdx M k n ∧ pivotIdx M k n < n :=
  (mem_pivotCands hk).1 (foldl_argmax (fun i => fabs (ent M i k)) (List.range' k (n - k)) k).1

theorem getD_mapIdx_rows (M : List (Vec K)) (f : Nat → Vec K → Vec K) (r : Nat) (hr : r < M.length) :
    (M.mapIdx f).getD r [] = f r (M.getD r []) := by
  simp [List.getD_eq_getElem?_getD, List.getElem?_mapIdx, List.getElem?_eq_getElem hr]

theorem pivotOf_eq (M : List (Vec K)) (k n : Nat) : pivotOf M k n = ent (swapRows M k (pivotIdx M k n)) k k := rfl

theorem gjStep_ent {n : Nat} {M : List (Vec K)} (h : WF n M) (k : Nat) (hk : k < n) (r j : Nat) (hr : r < n)
    (hj : j < n + 1) :
    ent (gjStep M k n) r j =
      if r = k then ent (swapRows M k (pivotIdx M k n)) k j / pivotOf M k n
      else ent (swapRows M k (pivotIdx M k n)) r j -
        ent (swapRows M k (pivotIdx M k n)) r k * (ent (swapRows M k (pivotIdx M k n)) k j / pivotOf M k n) := by
  obtain ⟨hp1, hp2⟩ := pivotIdx_range M k n hk
  have hw := swapRows_wf h k (pivotIdx M k n) hk hp2
  have hrl : r < (swapRows M k (pivotIdx M k n)).length := hw.len.symm ▸ hr
  unfold gjStep ent pivotOf
  dsimp only
  rw [getD_mapIdx_rows _ _ _ hrl]
  split
  · rw [getD_map (fun a => a / _) _ 0 j ((hw.row k hk).symm ▸ hj)]
  · rw [getD_zip_map _ _ _ j 0 0 0 ((hw.row r hr).symm ▸ hj) (by rwa [List.length_map, hw.row k hk]),
      getD_map (fun a => a / _) _ 0 j ((hw.row k hk).symm ▸ hj)]

theorem gjStep_ent_of_zero {n : Nat} {M : List (Vec K)} (h : WF n M) (k : Nat) (hk : k < n) (r j : Nat) (hr : r < n)
    (hj : j < n + 1) (h0 : ent (swapRows M k (pivotIdx M k n)) k j = 0) :
    ent (gjStep M k n) r j = ent (swapRows M k (pivotIdx M k n)) r j := by
  rw [gjStep_ent h k hk r j hr hj, h0, zero_div, mul_zero, sub_zero]
  split
  · rename_i e
    rw [e, h0]
  · rfl

theorem gjStep_wf {n : Nat} {M : List (Vec K)} (h : WF n M) (k : Nat) (hk : k < n) : WF n (gjStep M k n) := by
  obtain ⟨hp1, hp2⟩ := pivotIdx_range M k n hk
  have hw := swapRows_wf h k (pivotIdx M k n) hk hp2
  refine ⟨List.length_mapIdx.trans hw.len, fun r hr => ?_⟩
  have hrl : r < (swapRows M k (pivotIdx M k n)).length := hw.len.symm ▸ hr
  unfold gjStep
  dsimp only
  rw [getD_mapIdx_rows _ _ _ hrl]
  split
  · rw [List.length_map, hw.row k hk]
  · rw [List.length_map, List.length_zip, List.length_map, hw.row k hk, hw.row r hr, Nat.min_self]

theorem swap_ent {n : Nat} {M : List (Vec K)} (h : WF n M) (k piv : Nat) (hk : k < n) (hp : piv < n) (r j : Nat) :
    ent (swapRows M k piv) r j = ent M (Equiv.swap k piv r) j :=
  congrArg (·.getD j 0) (swapRows_getD M k piv r (h.len.symm ▸ hk) (h.len.symm ▸ hp))

def Sat (n : Nat) (x : Nat → K) (M : List (Vec K)) : Prop :=
  ∀ r, r < n → ∑ j ∈ Finset.range n, ent M r j * x j = ent M r n

theorem swap_sat {n : Nat} {M : List (Vec K)} (h : WF n M) (k piv : Nat) (hk : k < n) (hp : piv < n) (x : Nat → K) :
    Sat n x (swapRows M k piv) ↔ Sat n x M := by
  constructor
  · intro hs r hr
    have := hs (Equiv.swap k piv r) (swap_lt hk hp hr)
    simp only [swap_ent h k piv hk hp, Equiv.swap_apply_self] at this
    exact this
  · intro hs r hr
    simp only [swap_ent h k piv hk hp]
    exact hs _ (swap_lt hk hp hr)

def res (n : Nat) (x : Nat → K) (M : List (Vec K)) (r : Nat) : K :=
  ∑ j ∈ Finset.range n, ent M r j * x j - ent M r n

theorem sat_iff_res {n : Nat} {x : Nat → K} {M : List (Vec K)} : Sat n x M ↔ ∀ r, r < n → res n x M r = 0 :=
  forall₂_congr fun _ _ => sub_eq_zero.symm

/-- the defect is linear in the row, so the row operations of a step act on the defects as they act on the rows -/
theorem res_gjStep {n : Nat} {M : List (Vec K)} (h : WF n M) (k : Nat) (hk : k < n) (x : Nat → K) (r : Nat) (hr : r < n) :
    res n x (gjStep M k n) r =
      if r = k then res n x (swapRows M k (pivotIdx M k n)) k / pivotOf M k n
      else res n x (swapRows M k (pivotIdx M k n)) r -
        ent (swapRows M k (pivotIdx M k n)) r k * (res n x (swapRows M k (pivotIdx M k n)) k / pivotOf M k n) := by
  unfold res
  have hsum := Finset.sum_congr (f := fun j => ent (gjStep M k n) r j * x j) rfl fun j hj => by
    rw [gjStep_ent h k hk r j hr (Nat.lt_succ_of_lt (Finset.mem_range.1 hj))]
  rw [gjStep_ent h k hk r n hr n.lt_succ_self, hsum]
  split
  · rw [sub_div, Finset.sum_div]
    exact congrArg (· - _) (Finset.sum_congr rfl fun j _ => div_mul_eq_mul_div _ _ _)
  · rw [sub_div, Finset.sum_div, mul_sub, Finset.mul_sum, sub_sub_sub_comm, ← Finset.sum_sub_distrib]
    exact congrArg (· - _) (Finset.sum_congr rfl fun j _ => by ring)

theorem step_sat_fwd {n : Nat} {M : List (Vec K)} (h : WF n M) (k : Nat) (hk : k < n) (x : Nat → K)
    (hs : Sat n x M) : Sat n x (gjStep M k n) := by
  have hs1 := sat_iff_res.1 ((swap_sat h k _ hk (pivotIdx_range M k n hk).2 x).2 hs)
  refine sat_iff_res.2 fun r hr => ?_
  rw [res_gjStep h k hk x r hr, hs1 k hk, hs1 r hr, zero_div, mul_zero, sub_zero, ite_self]

theorem step_sat_bwd {n : Nat} {M : List (Vec K)} (h : WF n M) (k : Nat) (hk : k < n) (x : Nat → K)
    (hp : pivotOf M k n ≠ 0) (hs : Sat n x (gjStep M k n)) : Sat n x M := by
  have hs := sat_iff_res.1 hs
  refine (swap_sat h k _ hk (pivotIdx_range M k n hk).2 x).1 (sat_iff_res.2 fun r hr => ?_)
  -- row `k` first: its defect was only divided by the pivot
  have hk0 := hs k hk
  rw [res_gjStep h k hk x k hk, if_pos rfl, div_eq_zero_iff, or_iff_left hp] at hk0
  by_cases hrk : r = k
  · rw [hrk, hk0]
  · have := hs r hr
    rwa [res_gjStep h k hk x r hr, if_neg hrk, hk0, zero_div, mul_zero, sub_zero] at this

def Col (n k : Nat) (M : List (Vec K)) : Prop :=
  ∀ r, r < n → ∀ j, j < k → ent M r j = if r = j then 1 else 0

theorem step_col {n : Nat} {M : List (Vec K)} (h : WF n M) (k : Nat) (hk : k < n) (hc : Col n k M)
    (hp : pivotOf M k n ≠ 0) : Col n (k + 1) (gjStep M k n) := by
  obtain ⟨hp1, hp2⟩ := pivotIdx_range M k n hk
  -- rows `k` and `piv ≥ k` are zero in the columns `j < k`, and `Equiv.swap k piv` fixes every `j < k`
  have hc1 : ∀ r, r < n → ∀ j, j < k → ent (swapRows M k (pivotIdx M k n)) r j = if r = j then 1 else 0 := by
    intro r hr j hj
    have hσ : Equiv.swap k (pivotIdx M k n) r = j ↔ r = j := by
      rw [← Equiv.eq_symm_apply, Equiv.symm_swap, Equiv.swap_apply_of_ne_of_ne hj.ne (hj.trans_le hp1).ne]
    rw [swap_ent h k _ hk hp2, hc _ (swap_lt hk hp2 hr) j hj]
    simp only [hσ]
  intro r hr j hj
  by_cases hjk : j < k
  · rw [gjStep_ent_of_zero h k hk r j hr (Nat.lt_succ_of_lt (hjk.trans hk)) (by rw [hc1 k hk j hjk, if_neg hjk.ne']),
      hc1 r hr j hjk]
  · obtain rfl : j = k := by omega
    rw [gjStep_ent h j hk r j hr (Nat.lt_succ_of_lt hk), ← pivotOf_eq, div_self hp, mul_one, sub_self]

theorem gjLoop_wf (n fuel k : Nat) (M : List (Vec K)) (hkf : k + fuel ≤ n) (h : WF n M) : WF n (gjLoop n fuel k M) := by
  induction fuel generalizing k M with
  | zero => exact h
  | succ f ih => exact ih (k + 1) _ (by omega) (gjStep_wf h k (by omega))

theorem col_zero {n : Nat} (M : List (Vec K)) : Col n 0 M := fun _ _ j hj => absurd hj (Nat.not_lt_zero j)

theorem gjLoop_spec (n : Nat) : ∀ (fuel k : Nat) (M : List (Vec K)), k + fuel ≤ n → WF n M → Col n k M →
    (∀ p ∈ gjPivots n fuel k M, p ≠ 0) →
    Col n (k + fuel) (gjLoop n fuel k M) ∧ ∀ x : Nat → K, Sat n x (gjLoop n fuel k M) ↔ Sat n x M := by
  -- one induction for both: at step `k` each needs the pivot hypothesis read off the same `gjPivots` list
  intro fuel
  induction fuel with
  | zero =>
    intro k M _ _ hc _
    exact ⟨hc, fun _ => Iff.rfl⟩
  | succ f ih =>
    intro k M hkf h hc hp
    simp only [gjLoop]
    obtain ⟨hp0, hps⟩ := List.forall_mem_cons.1 hp
    have hk : k < n := by omega
    obtain ⟨h1, h2⟩ := ih (k + 1) (gjStep M k n) (by omega) (gjStep_wf h k hk) (step_col h k hk hc hp0) hps
    refine ⟨by rwa [show k + (f + 1) = k + 1 + f by omega], fun x => ?_⟩
    rw [h2 x]
    exact ⟨step_sat_bwd h k hk x hp0, step_sat_fwd h k hk x⟩

theorem col_row_sum {n k : Nat} {M : List (Vec K)} (hc : Col n k M) (hkn : k ≤ n) (x : Nat → K) (r : Nat) (hr : r < n) :
    ∑ j ∈ Finset.range n, ent M r j * x j =
      (if r < k then x r else 0) + ∑ j ∈ Finset.Ico k n, ent M r j * x j := by
  have hunit := Finset.sum_congr (f := fun j => ent M r j * x j) rfl fun j hj => by
    rw [hc r hr j (Finset.mem_range.1 hj), ite_mul, one_mul, zero_mul]
  rw [Finset.range_eq_Ico, ← Finset.sum_Ico_consecutive _ (Nat.zero_le k) hkn, ← Finset.range_eq_Ico, hunit,
    Finset.sum_ite_eq]
  simp only [Finset.mem_range]

theorem sat_of_col {n : Nat} {M : List (Vec K)} (hc : Col n n M) (x : Nat → K) :
    Sat n x M ↔ ∀ r, r < n → x r = ent M r n := by
  refine forall₂_congr fun r hr => ?_
  rw [col_row_sum hc le_rfl x r hr, if_pos hr, Finset.Ico_self, Finset.sum_empty, add_zero]

structure Sq (n : Nat) (A : List (Vec K)) : Prop where
  len : A.length = n
  row : ∀ i, i < n → (A.getD i []).length = n

theorem augment_row (A : List (Vec K)) (b : Vec K) (n : Nat) (hb : b.length = n) (hA : A.length = n)
    (r : Nat) (hr : r < n) : (augment A b).getD r [] = A.getD r [] ++ [b.getD r 0] :=
  getD_zip_map _ A b r [] 0 [] (hA.symm ▸ hr) (hb.symm ▸ hr)

theorem augment_wf (A : List (Vec K)) (b : Vec K) (n : Nat) (hb : b.length = n) (hA : Sq n A) : WF n (augment A b) := by
  refine ⟨by simp [augment, hA.len, hb], fun i hi => ?_⟩
  rw [augment_row A b n hb hA.len i hi, List.length_append, hA.row i hi]
  rfl

theorem augment_ent_left (A : List (Vec K)) (b : Vec K) (n : Nat) (hb : b.length = n) (hA : Sq n A) (r j : Nat)
    (hr : r < n) (hj : j < n) :
    ent (augment A b) r j = (A.getD r []).getD j 0 := by
  unfold ent
  rw [augment_row A b n hb hA.len r hr, List.getD_append _ _ _ _ ((hA.row r hr).symm ▸ hj)]

theorem augment_ent_right (A : List (Vec K)) (b : Vec K) (n : Nat) (hb : b.length = n) (hA : Sq n A) (r : Nat)
    (hr : r < n) :
    ent (augment A b) r n = b.getD r 0 := by
  unfold ent
  rw [augment_row A b n hb hA.len r hr, List.getD_append_right _ _ _ _ (by rw [hA.row r hr]), hA.row r hr, Nat.sub_self]
  rfl

theorem sat_augment (A : List (Vec K)) (b : Vec K) (n : Nat) (hb : b.length = n) (hA : Sq n A) (x : Nat → K) :
    Sat n x (augment A b) ↔ ∀ r, r < n → ∑ j ∈ Finset.range n, (A.getD r []).getD j 0 * x j = b.getD r 0 := by
  refine forall₂_congr fun r hr => ?_
  have hleft := Finset.sum_congr (f := fun j => ent (augment A b) r j * x j) rfl fun j hj => by
    rw [augment_ent_left A b n hb hA r j hr (Finset.mem_range.1 hj)]
  rw [augment_ent_right A b n hb hA r hr, hleft]

theorem gaussSolve_sat_iff (A : List (Vec K)) (b : Vec K) (n : Nat) (hb : b.length = n) (hA : Sq n A) (hp : ∀ p ∈ gjPivots n n 0 (augment A b), p ≠ 0) (x : Nat → K) :
    Sat n x (augment A b) ↔ ∀ r, r < n → x r = (gaussSolve A b).getD r 0 := by
  have hw := augment_wf A b n hb hA
  have hwf := gjLoop_wf n n 0 (augment A b) (Nat.zero_add n).le hw
  obtain ⟨hc, hs⟩ := gjLoop_spec n n 0 (augment A b) (Nat.zero_add n).le hw (col_zero _) hp
  rw [Nat.zero_add] at hc
  rw [← hs x, sat_of_col hc]
  refine forall₂_congr fun r hr => ?_
  have hr' : r < (gjLoop n n 0 (augment A b)).length := hwf.len.symm ▸ hr
  rw [gaussSolve, ent, hb, getD_map _ _ [] r hr']

theorem gaussSolve_length (A : List (Vec K)) (b : Vec K) (n : Nat) (hb : b.length = n) (hA : Sq n A) : (gaussSolve A b).length = n := by
  rw [gaussSolve, List.length_map, hb, (gjLoop_wf n n 0 (augment A b) (Nat.zero_add n).le (augment_wf A b n hb hA)).len]

theorem gaussSolve_solves (A : List (Vec K)) (b : Vec K) (n : Nat) (hb : b.length = n) (hA : A.length = n)
    (hrow : ∀ i, i < n → (A.getD i []).length = n) (hp : ∀ p ∈ gjPivots n n 0 (augment A b), p ≠ 0) :
    (gaussSolve A b).length = n ∧
    ∀ r, r < n → ∑ j ∈ Finset.range n, (A.getD r []).getD j 0 * (gaussSolve A b).getD j 0 = b.getD r 0 :=
  ⟨gaussSolve_length A b n hb ⟨hA, hrow⟩,
    (sat_augment A b n hb ⟨hA, hrow⟩ _).1 ((gaussSolve_sat_iff A b n hb ⟨hA, hrow⟩ hp _).2 fun _ _ => rfl)⟩

theorem gaussSolve_unique (A : List (Vec K)) (b : Vec K) (n : Nat) (hb : b.length = n) (hA : A.length = n)
    (hrow : ∀ i, i < n → (A.getD i []).length = n) (hp : ∀ p ∈ gjPivots n n 0 (augment A b), p ≠ 0)
    (x : Nat → K) (hx : ∀ r, r < n → ∑ j ∈ Finset.range n, (A.getD r []).getD j 0 * x j = b.getD r 0) :
    ∀ r, r < n → x r = (gaussSolve A b).getD r 0 :=
  (gaussSolve_sat_iff A b n hb ⟨hA, hrow⟩ hp x).1 ((sat_augment A b n hb ⟨hA, hrow⟩ x).2 hx)

section regular
variable [IsStrictOrderedRing K]

theorem pivotIdx_max (M : List (Vec K)) (k n : Nat) (i : Nat) (hki : k ≤ i) (hin : i < n) :
    fabs (ent M i k) ≤ fabs (ent M (pivotIdx M k n) k) :=
  (foldl_argmax (fun i => fabs (ent M i k)) (List.range' k (n - k)) k).2 i
    ((mem_pivotCands (hki.trans_lt hin)).2 ⟨hki, hin⟩)

/-- the homogeneous system: the elimination keeps a zero right-hand side zero, so what it solves for is the kernel -/
def RhsZero (n : Nat) (M : List (Vec K)) : Prop := ∀ r, r < n → ent M r n = 0

theorem step_rhsZero {n : Nat} {M : List (Vec K)} (h : WF n M) (k : Nat) (hk : k < n) (hz : RhsZero n M) :
    RhsZero n (gjStep M k n) := by
  obtain ⟨hp1, hp2⟩ := pivotIdx_range M k n hk
  have hz1 : ∀ r, r < n → ent (swapRows M k (pivotIdx M k n)) r n = 0 := by
    intro r hr
    rw [swap_ent h k _ hk hp2]
    exact hz _ (swap_lt hk hp2 hr)
  intro r hr
  rw [gjStep_ent_of_zero h k hk r n hr n.lt_succ_self (hz1 k hk), hz1 r hr]

theorem kernel_of_zero_pivot {n : Nat} {M : List (Vec K)} (h : WF n M) (k : Nat) (hk : k < n) (hc : Col n k M)
    (hz : RhsZero n M) (hp : pivotOf M k n = 0) :
    Sat n (fun j => if j < k then -ent M j k else if j = k then 1 else 0) M := by
  obtain ⟨hp1, hp2⟩ := pivotIdx_range M k n hk
  -- the whole column `k` vanishes below the diagonal
  have hpiv : ent M (pivotIdx M k n) k = 0 := by
    rw [← hp, pivotOf_eq, swap_ent h k _ hk hp2,
      Equiv.swap_apply_left]
  have hcol : ∀ i, k ≤ i → i < n → ent M i k = 0 := by
    intro i hki hin
    have := pivotIdx_max M k n i hki hin
    rw [hpiv, fabs_eq, fabs_eq, abs_zero] at this
    exact abs_nonpos_iff.1 this
  intro r hr
  rw [hz r hr, col_row_sum hc hk.le _ r hr,
    Finset.sum_eq_single k (fun j hj hne => ?_) (fun h' => absurd (Finset.mem_Ico.2 ⟨le_rfl, hk⟩) h')]
  · rw [if_neg (lt_irrefl k), if_pos rfl, mul_one]
    by_cases hrk : r < k
    · rw [if_pos hrk, if_pos hrk, neg_add_cancel]
    · rw [if_neg hrk, hcol r (not_lt.1 hrk) hr, add_zero]
  · rw [if_neg (Finset.mem_Ico.1 hj).1.not_gt, if_neg hne, mul_zero]

/-- a system with zero right-hand side and only the zero solution has no vanishing pivot: a zero pivot would give the non-zero
solution of `kernel_of_zero_pivot`, and both hypotheses pass to the stepped matrix (`step_rhsZero`, `step_sat_bwd`) -/
theorem gjPivots_ne_zero (n : Nat) : ∀ (fuel k : Nat) (M : List (Vec K)), k + fuel ≤ n → WF n M → Col n k M → RhsZero n M →
    (∀ x : Nat → K, Sat n x M → ∀ j, j < n → x j = 0) → ∀ p ∈ gjPivots n fuel k M, p ≠ 0 := by
  intro fuel
  induction fuel with
  | zero =>
    intro k M _ _ _ _ _ p hp
    exact absurd hp List.not_mem_nil
  | succ f ih =>
    intro k M hkf h hc hz hinj
    have hk : k < n := by omega
    have hpk : pivotOf M k n ≠ 0 := by
      intro h0
      -- the solution of `kernel_of_zero_pivot` has `x k = 1`
      have := hinj _ (kernel_of_zero_pivot h k hk hc hz h0) k hk
      rw [if_neg (lt_irrefl k), if_pos rfl] at this
      exact one_ne_zero this
    exact List.forall_mem_cons.2 ⟨hpk, ih (k + 1) (gjStep M k n) (by omega) (gjStep_wf h k hk) (step_col h k hk hc hpk)
      (step_rhsZero h k hk hz) fun x hs => hinj x (step_sat_bwd h k hk x hpk hs)⟩

end regular

end Lbfgsb.Gauss
