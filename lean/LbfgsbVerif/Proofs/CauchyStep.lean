/-
  One pass of the breakpoint loop of `cauchy` (`cauchyStep`) has three outcomes: the search is over already,
  it stops in this segment, or the breakpoint is passed and the state becomes `cauchyAdvance`. Invariants of the
  loop are proved about `cauchyAdvance` and carried over by `cauchyStep_cases`.
-/
import LbfgsbVerif.Model.Cauchy

namespace Lbfgsb
variable {α : Type} [Add α] [Sub α] [Mul α] [Div α] [Neg α] [LT α] [DecidableLT α]
  [OfNat α 0] [OfNat α 1]

theorem mv_of_useFactor (i : CauchyIn α) (h : i.useFactor = true) (v : Vec α) : i.mv v = gaussSolve i.Minv v :=
  if_pos h

theorem mv_of_not_useFactor (i : CauchyIn α) (h : i.useFactor = false) (v : Vec α) : i.mv v = v.map fun _ => 0 :=
  if_neg (h ▸ Bool.false_ne_true)

/-- the value `x_cp[ibp]` takes in `cauchyStep` -/
def pinTo (i : CauchyIn α) (s : CauchySt α) (ib : Nat) : α :=
  if 0 < s.d.getD ib 0 then i.ub.getD ib 0 else if s.d.getD ib 0 < 0 then i.lb.getD ib 0 else s.xcp.getD ib 0

/-- the continuing branch of `cauchyStep`: breakpoint `ib`, of value `tcur`, is passed -/
def cauchyAdvance (i : CauchyIn α) (f2org : α) (s : CauchySt α) (ib : Nat) (tcur : α) : CauchySt α :=
  let dt := tcur - s.tOld
  let xb := pinTo i s ib
  let xcp := s.xcp.set ib xb
  let zb := xb - i.x.getD ib 0
  let c := vadd s.c (smul dt s.p)
  let wb := i.W.getD ib []
  let gb := i.g.getD ib 0
  let f1 := s.f1 + dt * s.f2 + gb * (gb + i.theta * zb)
  let f2 := s.f2 - gb * gb * i.theta
  let f1 := if i.useFactor then f1 - gb * dot wb (i.mv c) else f1
  let f2 := if i.useFactor then f2 - gb * dot wb (i.mv (vadd (smul (1 + 1) s.p) (smul gb wb))) else f2
  let f2 := fmax f2 (i.epsFsec * f2org)
  let p := vadd s.p (smul gb wb)
  let d := s.d.set ib 0
  { s with xcp := xcp, d := d, p := p, c := c, f1 := f1, f2 := f2, dtm := -f1 / f2, tOld := tcur }

theorem cauchyStep_eq (i : CauchyIn α) (t : List (Option α)) (f2org : α) (s : CauchySt α) (ib : Nat) :
    cauchyStep i t f2org s ib =
      if s.found then s else
      match t.getD ib none with
      | none => { s with found := true }
      | some tcur =>
        if s.dtm < tcur - s.tOld ∧ 0 < tcur - s.tOld then { s with found := true }
        else cauchyAdvance i f2org s ib tcur := rfl

theorem cauchyStep_cases (i : CauchyIn α) (t : List (Option α)) (f2org : α) (s : CauchySt α) (ib : Nat) :
    (s.found = true ∧ cauchyStep i t f2org s ib = s) ∨
    (s.found = false ∧ cauchyStep i t f2org s ib = { s with found := true } ∧
      (t.getD ib none = none ∨ ∃ tcur, t.getD ib none = some tcur ∧ s.dtm < tcur - s.tOld ∧ 0 < tcur - s.tOld)) ∨
    ∃ tcur, t.getD ib none = some tcur ∧ s.found = false ∧
      (0 < tcur - s.tOld → ¬ s.dtm < tcur - s.tOld) ∧
      cauchyStep i t f2org s ib = cauchyAdvance i f2org s ib tcur := by
  rw [cauchyStep_eq]
  cases hf : s.found
  · cases ht : t.getD ib none with
    | none => exact .inr (.inl ⟨rfl, rfl, .inl rfl⟩)
    | some tcur =>
      by_cases hst : s.dtm < tcur - s.tOld ∧ 0 < tcur - s.tOld
      · exact .inr (.inl ⟨rfl, by simp only [Bool.false_eq_true, if_false, if_pos hst], .inr ⟨tcur, rfl, hst⟩⟩)
      · exact .inr (.inr ⟨tcur, rfl, rfl, fun h0 hlt => hst ⟨hlt, h0⟩, by simp only [Bool.false_eq_true, if_false, if_neg hst]⟩)
  · exact .inl ⟨rfl, rfl⟩

section fields
variable (i : CauchyIn α) (f2org : α) (s : CauchySt α) (ib : Nat) (tcur : α)

theorem cauchyAdvance_d : (cauchyAdvance i f2org s ib tcur).d = s.d.set ib 0 := rfl

theorem cauchyAdvance_tOld : (cauchyAdvance i f2org s ib tcur).tOld = tcur := rfl

theorem cauchyAdvance_f1 : (cauchyAdvance i f2org s ib tcur).f1 =
    if i.useFactor then
      s.f1 + (tcur - s.tOld) * s.f2 + i.g.getD ib 0 * (i.g.getD ib 0 + i.theta * (pinTo i s ib - i.x.getD ib 0)) -
        i.g.getD ib 0 * dot (i.W.getD ib []) (i.mv (vadd s.c (smul (tcur - s.tOld) s.p)))
    else s.f1 + (tcur - s.tOld) * s.f2 + i.g.getD ib 0 * (i.g.getD ib 0 + i.theta * (pinTo i s ib - i.x.getD ib 0)) :=
  rfl

theorem cauchyAdvance_f2 : (cauchyAdvance i f2org s ib tcur).f2 =
    fmax (if i.useFactor then
        s.f2 - i.g.getD ib 0 * i.g.getD ib 0 * i.theta -
          i.g.getD ib 0 * dot (i.W.getD ib [])
            (i.mv (vadd (smul (1 + 1) s.p) (smul (i.g.getD ib 0) (i.W.getD ib []))))
      else s.f2 - i.g.getD ib 0 * i.g.getD ib 0 * i.theta) (i.epsFsec * f2org) := rfl

end fields

theorem cauchyStep_lengths (i : CauchyIn α) (t : List (Option α)) (f2org : α) (s : CauchySt α) (ib : Nat) :
    (cauchyStep i t f2org s ib).xcp.length = s.xcp.length ∧
    (cauchyStep i t f2org s ib).d.length = s.d.length := by
  rcases cauchyStep_cases i t f2org s ib with ⟨-, he⟩ | ⟨-, he, -⟩ | ⟨tcur, -, -, -, he⟩
  · rw [he]
    exact ⟨rfl, rfl⟩
  · rw [he]
    exact ⟨rfl, rfl⟩
  · rw [he]
    exact ⟨List.length_set .., List.length_set ..⟩

/-- the one induction over the sorted breakpoints: `I s P rest` is an invariant of the state with `P` the indices passed and `rest`
those to come; a step moves its index from `rest` to `P` or leaves `P` as it is (the search has stopped) -/
theorem foldl_order {σ : Type} (step : σ → Nat → σ) (le : Nat → Nat → Prop) (Q : Nat → Prop)
    (I : σ → List Nat → List Nat → Prop)
    (hstep : ∀ s P ib rest, I s P (ib :: rest) → Q ib → ib ∉ P → ib ∉ rest → (∀ j ∈ rest, le ib j) →
      ∃ P', (P' = P ∨ P' = ib :: P) ∧ I (step s ib) P' rest) :
    ∀ (rest : List Nat) (s : σ) (P : List Nat), I s P rest → (∀ ib ∈ rest, Q ib ∧ ib ∉ P) → rest.Nodup →
      rest.Pairwise le → ∃ P', I (rest.foldl step s) P' [] := by
  intro rest
  induction rest with
  | nil => exact fun s P h _ _ _ => ⟨P, h⟩
  | cons ib tl ih =>
    intro s P h hall hnd hsort
    obtain ⟨hnd1, hnd2⟩ := List.nodup_cons.1 hnd
    obtain ⟨hs1, hs2⟩ := List.pairwise_cons.1 hsort
    obtain ⟨hq, hnp⟩ := hall ib List.mem_cons_self
    obtain ⟨P', hP', h'⟩ := hstep s P ib tl h hq hnp hnd1 hs1
    refine ih _ P' h' (fun j hj => ⟨(hall j (List.mem_cons_of_mem _ hj)).1, fun hmem => ?_⟩) hnd2 hs2
    have hjP := (hall j (List.mem_cons_of_mem _ hj)).2
    rcases hP' with rfl | rfl
    · exact hjP hmem
    · rcases List.mem_cons.1 hmem with rfl | hmem
      · exact hnd1 hj
      · exact hjP hmem

end Lbfgsb
