/-
  The driver model, function by function: `f_ok` says what a successful return of `f` means in
  terms of its callees (one-way; only `minimize_ok` is an iff, Props/C07 rebuilds a run from it),
  `f_eq` which fields `f` changes (an equation on the state; `lineSearch_eq` is the odd one, the
  unfolding of `lineSearch` into `ls0`, the loop and `lsPost`), `f_cases` lists the cases of `f`'s
  result; `f_sum`, in later files, is a one-way summary. `afterEval`, `iterStep`, `memStep` have no
  lemma here (the two equations of `memStep` are in Proofs/C06.lean): `iterBody_cases` describes a
  whole pass, `iterBody_rule` is its use for one-state invariants. Then the rules of the two loops
  and of a whole run. A property of one run uses these, not the model.
-/
import LbfgsbVerif.Model.Shell
import LbfgsbVerif.Proofs.SF

namespace Lbfgsb
variable {α ε δ : Type}

theorem iterFail_ok {s s' : St α} {flow : Flow} (h : iterFail s = (s', flow)) :
    (s.X.length = 1 ∧ flow = .brk ∧
      s' = { s with task := .abnormal, warnflag := 2, success := false }) ∨
    (s.X.length ≠ 1 ∧ flow = .next ∧
      s' = { s with task := .restartLnsrch, X := [lastD s.X], G := [lastD s.G], mats := none,
                    nit := s.nit + 1 }) := by
  unfold iterFail at h
  split at h
  next hl =>
    obtain ⟨rfl, rfl⟩ := Prod.mk.inj h
    exact Or.inl ⟨hl, rfl, rfl⟩
  next hl =>
    obtain ⟨rfl, rfl⟩ := Prod.mk.inj h
    exact Or.inr ⟨hl, rfl, rfl⟩

theorem earlyResult_cases [Sub α] [OfNat α 0] (c : Cfg α) (i : Init α) :
    (∃ ck, c.checkpoint = some ck ∧ earlyResult c i =
      ({ ck with msg := .target, success := true, status := 0 },
       { i.state with task := .target, success := true, warnflag := 0 })) ∨
    (c.checkpoint = none ∧ ∃ s, earlyResult c i = (s.result, s) ∧
      s = { i.state with task := .target, success := true, warnflag := 0, X := [i.x],
                         G := [i.x.map fun _ => 0], g := i.x.map fun _ => 0 }) := by
  unfold earlyResult
  split
  next ck hck => exact Or.inl ⟨ck, hck, rfl⟩
  next hck => exact Or.inr ⟨hck, _, rfl, rfl⟩

theorem evalThresh_ok {fn : Unit → Except ε α} {k : CallKind} {sf sf' : SF α} {t : Thresh α}
    {a : α} (h : evalThresh fn k sf t = .ok (sf', a)) :
    (t = .const a ∧ sf' = sf) ∨
    (t = .callable ∧ fn () = .ok a ∧ sf' = { sf with log := sf.log ++ [Call.mk k []] }) := by
  cases t with
  | const b =>
    obtain ⟨rfl, rfl⟩ := Prod.mk.inj (pure_ok.1 h)
    exact Or.inl ⟨rfl, rfl⟩
  | callable =>
    simp only [evalThresh, bind_ok, pure_ok, Prod.mk.injEq] at h
    obtain ⟨v, hv, rfl, rfl⟩ := h
    exact Or.inr ⟨rfl, hv, rfl⟩

theorem evalThresh_eq {fn : Unit → Except ε α} {k : CallKind} {sf sf' : SF α} {t : Thresh α}
    {a : α} (h : evalThresh fn k sf t = .ok (sf', a)) :
    ∃ d, sf' = { sf with log := sf.log ++ d } ∧ ∀ c ∈ d, c.kind = k := by
  rcases evalThresh_ok h with ⟨-, rfl⟩ | ⟨-, -, rfl⟩
  · exact ⟨[], by simp, nofun⟩
  · exact ⟨[Call.mk k []], rfl, by simp⟩

theorem evalFtarget_ok {u : User α ε} {c : Cfg α} {sf sf' : SF α} {ft : Option α}
    (h : evalFtarget u c sf = .ok (sf', ft)) :
    (c.ftarget = none ∧ sf' = sf ∧ ft = none) ∨
    ∃ th a, c.ftarget = some th ∧ ft = some a ∧
      evalThresh u.ftargetFn .ftarget sf th = .ok (sf', a) := by
  unfold evalFtarget at h
  split at h
  next hn =>
    obtain ⟨rfl, rfl⟩ := Prod.mk.inj (pure_ok.1 h)
    exact Or.inl ⟨hn, rfl, rfl⟩
  next th hs =>
    simp only [bind_ok, pure_ok, Prod.mk.injEq, Prod.exists] at h
    obtain ⟨sf1, a, hr, rfl, rfl⟩ := h
    exact Or.inr ⟨th, a, hs, rfl, hr⟩

theorem evalFtarget_eq {u : User α ε} {c : Cfg α} {sf sf' : SF α} {ft : Option α}
    (h : evalFtarget u c sf = .ok (sf', ft)) :
    ∃ d, sf' = { sf with log := sf.log ++ d } ∧ ∀ c ∈ d, c.kind = .ftarget := by
  rcases evalFtarget_ok h with ⟨-, rfl, -⟩ | ⟨th, a, -, -, hth⟩
  · exact ⟨[], by simp, nofun⟩
  · exact evalThresh_eq hth

theorem applyScaler_ok {u : User α ε} {c : Cfg α} {s s' : St α} {grad : Vec α}
    (h : applyScaler u c s grad = .ok s') :
    (c.hasScaler = false ∧ s' = s) ∨
    ∃ sc, c.hasScaler = true ∧ u.scaler s.x grad = .ok sc ∧
      s' = { s with sf := { s.sf with log := s.sf.log ++ [Call.mk .scaler s.x],
                                      scale := sc } } := by
  unfold applyScaler at h
  split at h
  next h0 =>
    obtain ⟨sc, hsc, h⟩ := bind_ok.1 h
    exact Or.inr ⟨sc, h0, hsc, (pure_ok.1 h).symm⟩
  next h0 => exact Or.inl ⟨Bool.eq_false_iff.2 h0, (pure_ok.1 h).symm⟩

theorem doCallback_ok [Sub α] {u : User α ε} {c : Cfg α} {s s' : St α}
    (h : doCallback u c s = .ok s') :
    (¬ (c.hasCallback = true ∧ s.success = false) ∧ s' = s) ∨
    ∃ b, c.hasCallback = true ∧ s.success = false ∧
      u.callback { s.result with nit := s.nit + 1 } = .ok b ∧
      s' = { (s.logCall .callback s.x) with
              cbStates := s.cbStates ++ [{ s.result with nit := s.nit + 1 }],
              task := if b then .userCallback else s.task, success := b } := by
  unfold doCallback at h
  split at h
  next hc =>
    simp only [bind_ok, pure_ok] at h
    obtain ⟨b, hb, rfl⟩ := h
    have hs : s.success = false := by simpa using hc.2
    refine Or.inr ⟨b, hc.1, hs, hb, ?_⟩
    cases b
    · simp [St.logCall, hs]
    · simp [St.logCall]
  next hc =>
    exact Or.inl ⟨fun h' => hc ⟨h'.1, by simp [h'.2]⟩, (pure_ok.1 h).symm⟩

section flags
variable [LT α] [DecidableLT α] [Sub α] [Neg α] [OfNat α 0]

theorem classify_cases (c : Cfg α) (s : St α) :
    (¬ s.gtol < projgr s.x s.g c.lb c.ub ∧
      classify c s = { s with task := .pgtol, success := true, warnflag := 1 }) ∨
    (s.gtol < projgr s.x s.g c.lb c.ub ∧ c.maxiter ≤ s.nit ∧
      classify c s = { s with task := .iterLimit, success := true, warnflag := 1 }) ∨
    (s.gtol < projgr s.x s.g c.lb c.ub ∧ s.nit < c.maxiter ∧ c.maxfun ≤ s.sf.nfev ∧
      classify c s = { s with task := .evalLimit, success := true, warnflag := 1 }) ∨
    (s.gtol < projgr s.x s.g c.lb c.ub ∧ s.nit < c.maxiter ∧ s.sf.nfev < c.maxfun ∧
      classify c s = s) := by
  -- test by test; `classify` is unfolded in the one equation of each case, not in the whole goal
  by_cases h1 : s.gtol < projgr s.x s.g c.lb c.ub
  · have e1 : ¬ (!decide (s.gtol < projgr s.x s.g c.lb c.ub)) = true := by simpa using h1
    by_cases h2 : c.maxiter ≤ s.nit
    · exact Or.inr (Or.inl ⟨h1, h2, (if_neg e1).trans (if_pos h2)⟩)
    · by_cases h3 : c.maxfun ≤ s.sf.nfev
      · exact Or.inr (Or.inr (Or.inl ⟨h1, Nat.lt_of_not_le h2, h3,
          (if_neg e1).trans ((if_neg h2).trans (if_pos h3))⟩))
      · exact Or.inr (Or.inr (Or.inr ⟨h1, Nat.lt_of_not_le h2, Nat.lt_of_not_le h3,
          (if_neg e1).trans ((if_neg h2).trans (if_neg h3))⟩))
  · exact Or.inl ⟨h1, if_pos (by simpa using h1)⟩

theorem classify_eq (c : Cfg α) (s : St α) :
    ∃ t su w, classify c s = { s with task := t, success := su, warnflag := w } := by
  rcases classify_cases c s with ⟨-, e⟩ | ⟨-, -, e⟩ | ⟨-, -, -, e⟩ | ⟨-, -, -, e⟩
  · exact ⟨_, _, _, e⟩
  · exact ⟨_, _, _, e⟩
  · exact ⟨_, _, _, e⟩
  · exact ⟨s.task, s.success, s.warnflag, e⟩

theorem classify_cbStates (c : Cfg α) (s : St α) : (classify c s).cbStates = s.cbStates := by
  obtain ⟨t, su, w, e⟩ := classify_eq c s
  rw [e]

theorem guard_iff {c : Cfg α} {s : St α} :
    guard c s = true ↔ s.gtol < projgr s.x s.g c.lb c.ub ∧ s.nit < c.maxiter ∧
      s.sf.nfev < c.maxfun ∧ s.success = false := by
  simp only [guard, Bool.and_eq_true, decide_eq_true_eq, Bool.not_eq_true', and_assoc]

variable [Div α] [OfNat α 1]

theorem stopTests_ok {c : Cfg α} {s s' : St α} {f0Old : α} {stop : Bool}
    (h : stopTests c s f0Old = (s', stop)) :
    (targetReached (s.f / s.sf.scale) s.ftarget = true ∧ stop = true ∧
      s' = { s with task := .target, success := true, warnflag := 0 }) ∨
    (minChange s.f f0Old c.ftol = true ∧ stop = true ∧
      s' = { s with task := .ftol, success := true, warnflag := 0 }) ∨
    (stop = false ∧ s' = s) := by
  unfold stopTests at h
  split at h
  next ht =>
    obtain ⟨rfl, rfl⟩ := Prod.mk.inj h
    exact Or.inl ⟨ht, rfl, rfl⟩
  next =>
    split at h
    next hm =>
      obtain ⟨rfl, rfl⟩ := Prod.mk.inj h
      exact Or.inr (Or.inl ⟨hm, rfl, rfl⟩)
    next =>
      obtain ⟨rfl, rfl⟩ := Prod.mk.inj h
      exact Or.inr (Or.inr ⟨rfl, rfl⟩)

end flags

section start
variable [LT α] [DecidableLT α] [Mul α] [OfNat α 0]

theorem firstEval_ok [OfNat α 1] {u : User α ε} {c : Cfg α} {sf : SF α} {f : α}
    (h : firstEval u c = .ok (sf, f)) :
    (c.checkpoint = none ∧
      (SF.new c.mode (clip c.x0 c.lb c.ub) c.lb c.ub).funv u.toSFUser (clip c.x0 c.lb c.ub)
        = .ok (sf, f)) ∨
    ∃ ck, c.checkpoint = some ck ∧ f = ck.f ∧
      sf = { SF.new c.mode (clip c.x0 c.lb c.ub) c.lb c.ub with
              nfev := ck.nfev, ngev := ck.njev } := by
  unfold firstEval at h
  split at h
  next h0 => exact Or.inl ⟨h0, h⟩
  next ck h0 =>
    obtain ⟨rfl, rfl⟩ := Prod.mk.inj (pure_ok.1 h)
    exact Or.inr ⟨ck, h0, rfl, rfl⟩

theorem firstGrad_ok {u : User α ε} {c : Cfg α} {i : Init α} {sf : SF α} {g : Vec α}
    (h : firstGrad u c i = .ok (sf, g)) :
    (c.checkpoint = none ∧ i.sf.gradv u.toSFUser i.x = .ok (sf, g)) ∨
    ∃ ck, c.checkpoint = some ck ∧ sf = i.sf ∧ g = ck.jac := by
  unfold firstGrad at h
  split at h
  next h0 => exact Or.inl ⟨h0, h⟩
  next ck h0 =>
    obtain ⟨rfl, rfl⟩ := Prod.mk.inj (pure_ok.1 h)
    exact Or.inr ⟨ck, h0, rfl, rfl⟩

variable [Add α] [Sub α]

theorem initEval_ok [OfNat α 1] {u : User α ε} {c : Cfg α} {i : Init α}
    (h : initEval u c = .ok i) :
      ∃ sf0 sf1 sf2, firstEval u c = .ok (sf0, i.f0) ∧
        evalFtarget u c sf0 = .ok (sf1, i.ftarget) ∧
        evalThresh u.gtolFn .gtol sf1 c.gtol = .ok (sf2, i.gtol) ∧
        i = { x := clip c.x0 c.lb c.ub,
              X := (match c.checkpoint with
                | none => ([], [])
                | some ck => restoreXG (clip c.x0 c.lb c.ub) ck.jac ck.sk ck.yk c.maxcor).1,
              G := (match c.checkpoint with
                | none => ([], [])
                | some ck => restoreXG (clip c.x0 c.lb c.ub) ck.jac ck.sk ck.yk c.maxcor).2,
              sf := sf2, f0 := i.f0, ftarget := i.ftarget, gtol := i.gtol,
              nit := match c.checkpoint with | none => 0 | some ck => ck.nit } := by
  simp only [initEval, bind_ok, pure_ok, Prod.exists] at h
  obtain ⟨sf0, f0, he, sf1, ft, ht, sf2, gt, hg, rfl⟩ := h
  exact ⟨sf0, sf1, sf2, he, ht, hg, rfl⟩

theorem initEval_eq [OfNat α 1] {u : User α ε} {c : Cfg α} {i : Init α}
    (h : initEval u c = .ok i) :
    ∃ sf0 d, firstEval u c = .ok (sf0, i.f0) ∧ i.sf = { sf0 with log := sf0.log ++ d } ∧
      (∀ c ∈ d, c.kind = .ftarget ∨ c.kind = .gtol) ∧ i.x = clip c.x0 c.lb c.ub := by
  obtain ⟨sf0, sf1, sf2, he, ht, hg, hi⟩ := initEval_ok h
  obtain ⟨d1, rfl, h1⟩ := evalFtarget_eq ht
  obtain ⟨d2, rfl, h2⟩ := evalThresh_eq hg
  refine ⟨sf0, d1 ++ d2, he, ?_, fun c hc => ?_, congrArg Init.x hi⟩
  · rw [congrArg Init.sf hi, ← List.append_assoc]
  · exact (List.mem_append.1 hc).elim (fun h' => Or.inl (h1 c h')) fun h' => Or.inr (h2 c h')

theorem initMemory_eq (c : Cfg α) (s : St α) :
    ∃ X G m, initMemory c s = { s with X := X, G := G, mats := m } := by
  unfold initMemory
  split
  · exact ⟨_, _, _, rfl⟩
  · exact ⟨_, _, s.mats, rfl⟩

theorem applyUpdate0_ok {u : User α ε} {c : Cfg α} {s s' : St α}
    (h : applyUpdate0 u c s = .ok s') :
    (c.hasUpdate = false ∧ s' = s) ∨
    ∃ r, c.hasUpdate = true ∧
      u.update { x := s.x, f0 := s.f, f0Old := s.f, grad := s.g, X := s.X, G := s.G } = .ok r ∧
      s' = { (s.logCall .update s.x) with
              f := r.f0, g := r.grad,
              X := (if s.X.length > 0 then filterWolfe s.X r.G c.epsSY else (s.X, r.G)).1,
              G := (if s.X.length > 0 then filterWolfe s.X r.G c.epsSY else (s.X, r.G)).2 } := by
  unfold applyUpdate0 at h
  split at h
  next h0 =>
    obtain ⟨r, hr, h⟩ := bind_ok.1 h
    exact Or.inr ⟨r, h0, hr, (pure_ok.1 h).symm⟩
  next h0 => exact Or.inl ⟨Bool.eq_false_iff.2 h0, (pure_ok.1 h).symm⟩

theorem prepare_ok {u : User α ε} {c : Cfg α} {i : Init α} {s : St α}
    (h : prepare u c i = .ok s) :
      ∃ sf g s1 s2, firstGrad u c i = .ok (sf, g) ∧
        applyScaler u c { i.state with sf := sf } g = .ok s1 ∧
        applyUpdate0 u c { s1 with f := i.f0 * s1.sf.scale, g := vscale g s1.sf.scale } = .ok s2 ∧
        s = initMemory c s2 := by
  simp only [prepare, bind_ok, pure_ok, Prod.exists] at h
  obtain ⟨sf, g, he, s1, h1, s2, h2, rfl⟩ := h
  exact ⟨sf, g, s1, s2, he, h1, h2, rfl⟩

theorem prepare_eq {u : User α ε} {c : Cfg α} {i : Init α} {s : St α}
    (h : prepare u c i = .ok s) :
    ∃ sf g sc d f' g' X G m, firstGrad u c i = .ok (sf, g) ∧
      s = { i.state with sf := { sf with log := sf.log ++ d, scale := sc }, f := f', g := g',
                         X := X, G := G, mats := m } ∧
      (∀ e ∈ d, (e.kind = .scaler ∨ e.kind = .update) ∧ e.arg = i.x) ∧
      (c.hasUpdate = false → f' = i.f0 * sc ∧ g' = vscale g sc) := by
  obtain ⟨sf, g, s1, s2, he, h1, h2, rfl⟩ := prepare_ok h
  obtain ⟨X, G, m, e⟩ := initMemory_eq c s2
  rw [e]
  rcases applyScaler_ok h1 with ⟨-, rfl⟩ | ⟨sc, -, -, rfl⟩
  · rcases applyUpdate0_ok h2 with ⟨-, rfl⟩ | ⟨r, hU, -, rfl⟩
    · exact ⟨sf, g, sf.scale, [], _, _, X, G, m, he, by simp, nofun, fun _ => ⟨rfl, rfl⟩⟩
    · exact ⟨sf, g, sf.scale, [Call.mk .update i.x], _, _, X, G, m, he, rfl, by simp,
        fun h' => by simp [hU] at h'⟩
  · rcases applyUpdate0_ok h2 with ⟨-, rfl⟩ | ⟨r, hU, -, rfl⟩
    · exact ⟨sf, g, sc, [Call.mk .scaler i.x], _, _, X, G, m, he, rfl, by simp,
        fun _ => ⟨rfl, rfl⟩⟩
    · exact ⟨sf, g, sc, [Call.mk .scaler i.x, Call.mk .update i.x], r.f0, r.grad, X, G, m, he,
        by simp [St.logCall, Init.state], by simp, fun h' => by simp [hU] at h'⟩

theorem prepare_cbs {u : User α ε} {c : Cfg α} {i : Init α} {s : St α}
    (h : prepare u c i = .ok s) : s.cbStates = [] := by
  obtain ⟨sf, g, sc, d, f', g', X, G, m, -, rfl, -⟩ := prepare_eq h
  rfl

end start

section lineSearch
variable [LT α] [DecidableLT α] [OfNat α 0]

/-- what `line_search` returns, from the final loop state and whether the loop ran out of passes -/
def lsPost [FloatLike α] (r : LS α δ × Bool) :
    Except ε (SF α × Option α × List (OReq α)) :=
  let task := if r.2 then Task.warn else r.1.task
  if !(FloatLike.isFinite r.1.stp) || feq r.1.stp 0 then pure (r.1.sf, none, r.1.olog)
  else if task ≠ .conv ∧ task ≠ .warn then pure (r.1.sf, none, r.1.olog)
  else pure (r.1.sf, r.1.best, r.1.olog)

theorem lsPost_ok [FloatLike α] {l : LS α δ} {ex : Bool} {sf' : SF α} {stp? : Option α}
    {olog' : List (OReq α)}
    (h : lsPost (ε := ε) (l, ex) = .ok (sf', stp?, olog')) :
    sf' = l.sf ∧ olog' = l.olog ∧ (stp? = none ∨ stp? = l.best) := by
  simp only [lsPost, ite_ok, pure_ok, Prod.mk.injEq] at h
  rcases h with ⟨-, rfl, rfl, rfl⟩ | ⟨-, ⟨-, rfl, rfl, rfl⟩ | ⟨-, rfl, rfl, rfl⟩⟩
  · exact ⟨rfl, rfl, Or.inl rfl⟩
  · exact ⟨rfl, rfl, Or.inl rfl⟩
  · exact ⟨rfl, rfl, Or.inr rfl⟩

variable [Add α] [Mul α]

theorem lsStep_ok {u : User α ε} {o : Oracles α δ} {x0 d lb ub : Vec α} {l l' : LS α δ}
    {cont : Bool} (h : lsStep u o x0 d lb ub l = .ok (l', cont)) :
    ∃ dc stp task, o.dcIter l.dc l.stp0 l.fm1 l.dphim1 l.task = (dc, stp, task) ∧
    ((task ≠ .fg ∧ cont = false ∧
      l' = { l with dc := dc, stp := stp, task := task,
                    olog := l.olog ++ [OReq.dc l.stp0 l.fm1 l.dphim1 l.task] }) ∨
     (task = .fg ∧ cont = true ∧ ∃ sf f g,
      l.sf.funAndGrad u.toSFUser (trial x0 d lb ub stp) = .ok (sf, f, g) ∧
      l' = { l with dc := dc, stp := stp, task := task,
                    olog := l.olog ++ [OReq.dc l.stp0 l.fm1 l.dphim1 l.task],
                    sf := sf, stp0 := stp, fm1 := f, dphim1 := dot g d,
                    fBest := if f < l.fBest then f else l.fBest,
                    best := if f < l.fBest then some stp else l.best })) := by
  refine ⟨_, _, _, rfl, ?_⟩
  unfold lsStep at h
  dsimp only at h
  rcases ite_ok.1 h with ⟨ht, h⟩ | ⟨ht, h⟩
  · simp only [bind_ok, pure_ok, Prod.mk.injEq, Prod.exists] at h
    obtain ⟨sf, f, g, he, rfl, rfl⟩ := h
    refine Or.inr ⟨ht, rfl, sf, f, g, he, ?_⟩
    split <;> rfl
  · obtain ⟨rfl, rfl⟩ := Prod.mk.inj (pure_ok.1 h)
    exact Or.inl ⟨ht, rfl, rfl⟩

/-- the rule of the line-search loop. `k` counts the steps taken so far: `P k l` holds of every
state `l` a step starts from after `k` steps, `Q k l'` of the state the loop ends in; it ends
after `j ≤ fuel` further steps, because a step says stop or the fuel is used up -/
theorem lsLoop_rule {u : User α ε} {o : Oracles α δ} {x0 d lb ub : Vec α}
    {P Q : Nat → LS α δ → Prop} (stop : ∀ k l, P k l → Q k l)
    (step : ∀ k l l' cont, P k l → lsStep u o x0 d lb ub l = .ok (l', cont) →
      Q (k + 1) l' ∧ (cont = true → P (k + 1) l')) :
    ∀ (fuel k : Nat) (l l' : LS α δ) (ex : Bool), P k l →
      lsLoop u o x0 d lb ub fuel l = .ok (l', ex) → ∃ j, j ≤ fuel ∧ Q (k + j) l' := by
  intro fuel
  induction fuel with
  | zero =>
    intro k l l' ex hi h
    obtain ⟨rfl, -⟩ := Prod.mk.inj (pure_ok.1 h)
    exact ⟨0, Nat.le_refl _, stop k l hi⟩
  | succ fuel ih =>
    intro k l l' ex hi h
    simp only [lsLoop, bind_ok, Prod.exists] at h
    obtain ⟨l1, cont, h1, h⟩ := h
    obtain ⟨hq, hp⟩ := step k l l1 cont hi h1
    cases cont
    · obtain ⟨rfl, -⟩ := Prod.mk.inj (pure_ok.1 h)
      exact ⟨1, Nat.le_add_left _ _, hq⟩
    · obtain ⟨j, hj, h2⟩ := ih (k + 1) l1 l' ex (hp rfl) h
      exact ⟨j + 1, Nat.succ_le_succ hj, by rwa [Nat.add_assoc, Nat.add_comm 1] at h2⟩

variable [Sub α] [Div α] [OfNat α 1] [FloatLike α]

/-- the loop state `line_search` starts from -/
def ls0 (o : Oracles α δ) (c : Cfg α) (x0 : Vec α) (f0 : α) (g0 d : Vec α) (nit : Nat) (sf : SF α)
    (olog : List (OReq α)) : LS α δ :=
  let maxStep := maxAllowedStep x0 d c.lb c.ub c.maxStep nit
  let stp0 : α :=
    if nit = 0 ∧ !(isBoxed c.lb c.ub) then fmin (1 / FloatLike.sqrt (dot d d)) maxStep else 1
  { sf := sf, dc := o.dcNew x0 d c.ftolLS c.gtolLS c.xtolLS maxStep, stp0 := stp0, fm1 := f0,
    dphim1 := dot g0 d, task := .start, stp := stp0, fBest := f0, best := none, olog := olog }

theorem lineSearch_eq (u : User α ε) (o : Oracles α δ) (c : Cfg α) (x0 : Vec α) (f0 : α)
    (g0 d : Vec α) (nit : Nat) (sf : SF α) (maxIter : Nat) (olog : List (OReq α)) :
    lineSearch u o c x0 f0 g0 d nit sf maxIter olog =
      lsLoop u o x0 d c.lb c.ub maxIter (ls0 o c x0 f0 g0 d nit sf olog) >>= lsPost := rfl

theorem lineSearch_ok {u : User α ε} {o : Oracles α δ} {c : Cfg α} {x0 : Vec α} {f0 : α}
    {g0 d : Vec α} {nit : Nat} {sf : SF α} {maxIter : Nat} {olog : List (OReq α)}
    {r : SF α × Option α × List (OReq α)}
    (h : lineSearch u o c x0 f0 g0 d nit sf maxIter olog = .ok r) :
    ∃ l ex, lsLoop u o x0 d c.lb c.ub maxIter (ls0 o c x0 f0 g0 d nit sf olog) = .ok (l, ex) ∧
      lsPost (ε := ε) (l, ex) = .ok r := by
  rwa [lineSearch_eq, bind_ok, Prod.exists] at h

end lineSearch

section loop
variable [LT α] [DecidableLT α] [Add α] [Sub α] [Mul α] [Div α] [Neg α] [OfNat α 0]
  [OfNat α 1] [FloatLike α]

/-- a pass, case by case: (1) the line search fails and the run aborts, (2) it fails and the
memory is reset, (3) the step to `x1` is taken; then `s0` is the state the stop tests act on,
after the update hook, if any, and the pass stops there or goes on through `memStep` and the
callback -/
theorem iterBody_cases {u : User α ε} {o : Oracles α δ} {c : Cfg α} {s s' : St α} {flow : Flow}
    (h : iterBody u o c s = .ok (s', flow)) :
    ∃ sfL stp? olog,
      lineSearch u o c s.x s.f s.g (vsub (o.xbar s.x s.g s.mats) s.x) s.nit s.sf
        (min c.maxls (c.maxfun - s.sf.nfev)) (s.olog ++ [OReq.xbar s.x s.g s.mats])
        = .ok (sfL, stp?, olog) ∧
      ((stp? = none ∧ s.X.length = 1 ∧ flow = .brk ∧
          s' = { s with sf := sfL, olog := olog, task := .abnormal, warnflag := 2,
                        success := false }) ∨
       (stp? = none ∧ s.X.length ≠ 1 ∧ flow = .next ∧
          s' = { s with sf := sfL, olog := olog, task := .restartLnsrch, X := [lastD s.X],
                        G := [lastD s.G], mats := none, nit := s.nit + 1 }) ∨
       ∃ stp x1 sf f g s0,
          stp? = some stp ∧ x1 = trial s.x (vsub (o.xbar s.x s.g s.mats) s.x) c.lb c.ub stp ∧
          sfL.funAndGrad u.toSFUser x1 = .ok (sf, f, g) ∧
          ((c.hasUpdate = false ∧
              s0 = { s with x := x1, f := f, g := g, sf := sf, olog := olog }) ∨
           (c.hasUpdate = true ∧ ∃ r,
              u.update { x := x1, f0 := f, f0Old := s.f, grad := g, X := s.X, G := s.G } = .ok r ∧
              s0 = { s with x := x1, f := r.f0, g := r.grad, X := (filterWolfe s.X r.G c.epsSY).1,
                            G := (filterWolfe s.X r.G c.epsSY).2, olog := olog,
                            sf := { sf with log := sf.log ++ [Call.mk .update x1] } })) ∧
          ((flow = .brk ∧ ∃ t, s' = { s0 with task := t, success := true, warnflag := 0 } ∧
              (t = .target ∧ targetReached (s0.f / s0.sf.scale) s0.ftarget = true ∨ t = .ftol)) ∨
           (flow = .next ∧
              (s' = { memStep c s0 with nit := s0.nit + 1 } ∨
               ∃ b, c.hasCallback = true ∧ s0.success = false ∧
                 u.callback { (memStep c s0).result with nit := s0.nit + 1 } = .ok b ∧
                 s' = { ((memStep c s0).logCall .callback s0.x) with
                         cbStates := s0.cbStates ++ [{ (memStep c s0).result with nit := s0.nit + 1 }],
                         task := if b then .userCallback else s0.task, success := b,
                         nit := s0.nit + 1 })))) := by
  simp only [iterBody, bind_ok, Prod.exists] at h
  obtain ⟨sfL, stp?, olog, hl, h⟩ := h
  refine ⟨sfL, stp?, olog, hl, ?_⟩
  cases stp? with
  | none =>
    rcases iterFail_ok (pure_ok.1 h) with ⟨h1, rfl, rfl⟩ | ⟨h1, rfl, rfl⟩
    · exact Or.inl ⟨rfl, h1, rfl, rfl⟩
    · exact Or.inr (Or.inl ⟨rfl, h1, rfl, rfl⟩)
  | some stp =>
    simp only [iterStep, bind_ok, Prod.exists] at h
    obtain ⟨sf, f, g, he, s1, stop, hr, h⟩ := h
    generalize hx1 : trial s.x (vsub (o.xbar s.x s.g s.mats) s.x) c.lb c.ub stp = x1 at he hr
    obtain ⟨s0, f0, hs0, hst⟩ : ∃ s0 f0,
        ((c.hasUpdate = false ∧
            s0 = { s with x := x1, f := f, g := g, sf := sf, olog := olog }) ∨
         (c.hasUpdate = true ∧ ∃ r,
            u.update { x := x1, f0 := f, f0Old := s.f, grad := g, X := s.X, G := s.G } = .ok r ∧
            s0 = { s with x := x1, f := r.f0, g := r.grad, X := (filterWolfe s.X r.G c.epsSY).1,
                          G := (filterWolfe s.X r.G c.epsSY).2, olog := olog,
                          sf := { sf with log := sf.log ++ [Call.mk .update x1] } })) ∧
        stopTests c s0 f0 = (s1, stop) := by
      unfold afterEval at hr
      split at hr
      next hU =>
        obtain ⟨r, hr', hst⟩ := bind_ok.1 hr
        exact ⟨_, _, Or.inr ⟨hU, r, hr', rfl⟩, pure_ok.1 hst⟩
      next hU => exact ⟨_, _, Or.inl ⟨Bool.eq_false_iff.2 hU, rfl⟩, pure_ok.1 hr⟩
    refine Or.inr (Or.inr ⟨stp, x1, sf, f, g, s0, rfl, hx1.symm, he, hs0, ?_⟩)
    rcases stopTests_ok hst with ⟨ht, rfl, rfl⟩ | ⟨-, rfl, rfl⟩ | ⟨rfl, rfl⟩
    · obtain ⟨rfl, rfl⟩ := Prod.mk.inj (pure_ok.1 h)
      exact Or.inl ⟨rfl, _, rfl, Or.inl ⟨rfl, ht⟩⟩
    · obtain ⟨rfl, rfl⟩ := Prod.mk.inj (pure_ok.1 h)
      exact Or.inl ⟨rfl, _, rfl, Or.inr rfl⟩
    · simp only [Bool.false_eq_true, if_false, bind_ok, pure_ok, Prod.mk.injEq] at h
      obtain ⟨s2, hs2, rfl, rfl⟩ := h
      rcases doCallback_ok hs2 with ⟨-, rfl⟩ | ⟨b, hC, hS, hb, rfl⟩
      · exact Or.inr ⟨rfl, Or.inl rfl⟩
      · exact Or.inr ⟨rfl, Or.inr ⟨b, hC, hS, hb, rfl⟩⟩

theorem iterBody_frame {u : User α ε} {o : Oracles α δ} {c : Cfg α} {s s' : St α} {flow : Flow}
    (h : iterBody u o c s = .ok (s', flow)) :
    s'.gtol = s.gtol ∧ s'.ftarget = s.ftarget ∧
      s'.nit = s.nit + (if flow = .next then 1 else 0) := by
  -- abort | reset | step taken
  obtain ⟨sfL, stp?, olog, -, ⟨-, -, rfl, rfl⟩ | ⟨-, -, rfl, rfl⟩ |
    ⟨stp, x1, sf, f, g, s0, -, -, -, hs0, hrest⟩⟩ := iterBody_cases h
  · exact ⟨rfl, rfl, rfl⟩
  · exact ⟨rfl, rfl, rfl⟩
  · have h0 : s0.gtol = s.gtol ∧ s0.ftarget = s.ftarget ∧ s0.nit = s.nit := by
      rcases hs0 with ⟨-, rfl⟩ | ⟨-, r, -, rfl⟩
      · exact ⟨rfl, rfl, rfl⟩
      · exact ⟨rfl, rfl, rfl⟩
    rcases hrest with ⟨rfl, t, rfl, -⟩ | ⟨rfl, rfl | ⟨b, -, -, -, rfl⟩⟩
    · exact h0
    · exact ⟨h0.1, h0.2.1, congrArg (· + 1) h0.2.2⟩
    · exact ⟨h0.1, h0.2.1, congrArg (· + 1) h0.2.2⟩

theorem iterBody_nit_next {u : User α ε} {o : Oracles α δ} {c : Cfg α} {s s' : St α}
    (h : iterBody u o c s = .ok (s', .next)) : s'.nit = s.nit + 1 := by
  simpa using (iterBody_frame h).2.2

/-- the use of `iterBody_cases` for a one-state invariant. `ls` and `move` speak of this pass and
have no premise `I s`: the caller brings it from its context. The other premises say that `I`
is closed under what else a pass does to a state; `flags` quantifies over all flags, so an
invariant that reads `task` or `success` (`Inv4`, `RInv`) cannot use the rule and reads
`iterBody_cases` -/
theorem iterBody_rule {u : User α ε} {o : Oracles α δ} {c : Cfg α} {s s' : St α} {flow : Flow}
    {I : St α → Prop} (h : iterBody u o c s = .ok (s', flow))
    (ls : ∀ sfL stp? olog,
      lineSearch u o c s.x s.f s.g (vsub (o.xbar s.x s.g s.mats) s.x) s.nit s.sf
        (min c.maxls (c.maxfun - s.sf.nfev)) (s.olog ++ [OReq.xbar s.x s.g s.mats])
        = .ok (sfL, stp?, olog) → I { s with sf := sfL, olog := olog })
    (move : ∀ sfL stp olog sf f g,
      lineSearch u o c s.x s.f s.g (vsub (o.xbar s.x s.g s.mats) s.x) s.nit s.sf
        (min c.maxls (c.maxfun - s.sf.nfev)) (s.olog ++ [OReq.xbar s.x s.g s.mats])
        = .ok (sfL, some stp, olog) →
      sfL.funAndGrad u.toSFUser (trial s.x (vsub (o.xbar s.x s.g s.mats) s.x) c.lb c.ub stp)
        = .ok (sf, f, g) →
      I { s with sf := sfL, olog := olog } →
      I { s with x := trial s.x (vsub (o.xbar s.x s.g s.mats) s.x) c.lb c.ub stp, f := f, g := g,
                 sf := sf, olog := olog })
    (upd : ∀ (t : St α) f0Old r, c.hasUpdate = true →
      u.update { x := t.x, f0 := t.f, f0Old := f0Old, grad := t.g, X := t.X, G := t.G } = .ok r →
      I t →
      I { (t.logCall .update t.x) with f := r.f0, g := r.grad, X := (filterWolfe t.X r.G c.epsSY).1,
                                       G := (filterWolfe t.X r.G c.epsSY).2 })
    (flags : ∀ (t : St α) tk su w, I t → I { t with task := tk, success := su, warnflag := w })
    (reset : ∀ t : St α, I t → I { t with X := [lastD t.X], G := [lastD t.G], mats := none })
    (mem : ∀ t, I t → I (memStep c t))
    (cb : ∀ (t : St α) b, c.hasCallback = true → t.success = false →
      u.callback { t.result with nit := t.nit + 1 } = .ok b → I t →
      I { (t.logCall .callback t.x) with
          cbStates := t.cbStates ++ [{ t.result with nit := t.nit + 1 }] })
    (nit : ∀ t : St α, I t → I { t with nit := t.nit + 1 }) : I s' := by
  -- abort | reset | step taken
  obtain ⟨sfL, stp?, olog, hl, ⟨-, -, -, rfl⟩ | ⟨-, -, -, rfl⟩ |
    ⟨stp, x1, sf, f, g, s0, rfl, rfl, he, hs0, hrest⟩⟩ := iterBody_cases h
  · exact flags _ _ _ _ (ls _ _ _ hl)
  · exact nit _ (reset _ (flags _ .restartLnsrch _ _ (ls _ _ _ hl)))
  · have iE := move _ _ _ _ _ _ hl he (ls _ _ _ hl)
    have i0 : I s0 := by
      rcases hs0 with ⟨-, rfl⟩ | ⟨hU, r, hr, rfl⟩
      · exact iE
      · exact upd _ _ r hU hr iE
    rcases hrest with ⟨-, t, rfl, -⟩ | ⟨-, rfl | ⟨b, hC, hS, hb, rfl⟩⟩
    · exact flags _ _ _ _ i0
    · exact nit _ (mem _ i0)
    · exact nit _ (flags _ (if b then .userCallback else s0.task) b _
        (cb (memStep c s0) b hC hS hb (mem _ i0)))

theorem mainLoop_next {u : User α ε} {o : Oracles α δ} {c : Cfg α} {s s' : St α} (fuel : Nat)
    (hg : guard c s = true) (hb : iterBody u o c s = .ok (s', .next)) :
    mainLoop u o c (fuel + 1) s = mainLoop u o c fuel s' := by
  simp only [mainLoop, hg, if_true, hb, bind, Except.bind]

/-- the rule of the main loop, for any fuel: `I` holds of every state a pass starts from, `Q` of
the state the loop ends in — after a pass that breaks (`brk`), or before a pass, because the
guard fails or the fuel is used up (`stop` does not say which) -/
theorem mainLoop_rule {u : User α ε} {o : Oracles α δ} {c : Cfg α} {I Q : St α → Prop}
    (next : ∀ s s', I s → guard c s = true → iterBody u o c s = .ok (s', .next) → I s')
    (brk : ∀ s s', I s → guard c s = true → iterBody u o c s = .ok (s', .brk) → Q s')
    (stop : ∀ s, I s → Q s) :
    ∀ (fuel : Nat) (s s' : St α), I s → mainLoop u o c fuel s = .ok s' → Q s' := by
  intro fuel
  induction fuel with
  | zero =>
    intro s s' hi h
    rw [mainLoop, pure_ok] at h
    exact h ▸ stop s hi
  | succ fuel ih =>
    intro s s' hi h
    rw [mainLoop] at h
    rcases ite_ok.1 h with ⟨hg, h⟩ | ⟨-, h⟩
    · simp only [bind_ok, Prod.exists] at h
      obtain ⟨s1, flow, hb, h⟩ := h
      cases flow
      · exact ih s1 s' (next s s1 hi hg hb) h
      · exact pure_ok.1 h ▸ brk s s1 hi hg hb
    · exact pure_ok.1 h ▸ stop s hi

theorem mainLoop_inv {u : User α ε} {o : Oracles α δ} {c : Cfg α} {I : St α → Prop}
    (step : ∀ s s' flow, I s → guard c s = true → iterBody u o c s = .ok (s', flow) → I s') :
    ∀ (fuel : Nat) (s s' : St α), I s → mainLoop u o c fuel s = .ok s' → I s' :=
  mainLoop_rule (fun s s' => step s s' .next) (fun s s' => step s s' .brk) fun _ h => h

/-- `mainLoop_rule` for fuel that suffices (`maxiter ≤ fuel + nit`): then the loop stops before a
pass only because the guard fails (`done`), since each pass that goes on counts one iteration
and the guard bounds them. The one rule from which an exit reason can be read -/
theorem mainLoop_induct {u : User α ε} {o : Oracles α δ} {c : Cfg α} {I Q : St α → Prop}
    (next : ∀ s s', I s → guard c s = true → iterBody u o c s = .ok (s', .next) → I s')
    (brk : ∀ s s', I s → guard c s = true → iterBody u o c s = .ok (s', .brk) → Q s')
    (done : ∀ s, I s → guard c s = false → Q s) :
    ∀ (fuel : Nat) (s s' : St α), c.maxiter ≤ fuel + s.nit → I s →
      mainLoop u o c fuel s = .ok s' → Q s' := by
  intro fuel
  induction fuel with
  | zero =>
    intro s s' hf hi h
    rw [mainLoop, pure_ok] at h
    exact h ▸ done s hi (Bool.eq_false_iff.2 fun hg => absurd (guard_iff.1 hg).2.1 (by omega))
  | succ fuel ih =>
    intro s s' hf hi h
    rw [mainLoop] at h
    rcases ite_ok.1 h with ⟨hg, h⟩ | ⟨hg, h⟩
    · simp only [bind_ok, Prod.exists] at h
      obtain ⟨s1, flow, hb, h⟩ := h
      cases flow
      · have hn := iterBody_nit_next hb
        exact ih s1 s' (by omega) (next s s1 hi hg hb) h
      · exact pure_ok.1 h ▸ brk s s1 hi hg hb
    · exact pure_ok.1 h ▸ done s hi (Bool.eq_false_iff.2 hg)

theorem minimize_ok {u : User α ε} {o : Oracles α δ} {c : Cfg α} {r : Result α} {s : St α} :
    minimize u o c = .ok (r, s) ↔
      ∃ i, initEval u c = .ok i ∧
        ((targetReached (i.f0 / i.sf.scale) i.ftarget = true ∧ (r, s) = earlyResult c i) ∨
         (targetReached (i.f0 / i.sf.scale) i.ftarget = false ∧ ∃ s0 s1, prepare u c i = .ok s0 ∧
            mainLoop u o c (c.maxiter - s0.nit) s0 = .ok s1 ∧ s = classify c s1 ∧
            r = s.result)) := by
  simp only [minimize, bind_ok]
  refine exists_congr fun i => and_congr_right fun _ => ?_
  cases targetReached (i.f0 / i.sf.scale) i.ftarget with
  | true =>
    simp only [if_true, true_and, Bool.true_eq_false, false_and, or_false]
    exact pure_ok.trans eq_comm
  | false =>
    simp only [Bool.false_eq_true, if_false, bind_ok, pure_ok, Prod.mk.injEq, false_and,
      false_or, true_and]
    constructor
    · rintro ⟨s0, h0, s1, h1, rfl, rfl⟩
      exact ⟨s0, s1, h0, h1, rfl, rfl⟩
    · rintro ⟨s0, s1, h0, h1, rfl, rfl⟩
      exact ⟨s0, h0, s1, h1, rfl, rfl⟩

/-- the rule of a whole run for a one-state invariant: what the prepared state has (`start`) and
every pass keeps (`step`) holds of the final state up to the three report fields the
classification rewrites — unless the run returned before the loop, on the target -/
theorem minimize_inv {u : User α ε} {o : Oracles α δ} {c : Cfg α} {I : St α → Prop}
    (start : ∀ i s0, initEval u c = .ok i → prepare u c i = .ok s0 → I s0)
    (step : ∀ s s' flow, I s → guard c s = true → iterBody u o c s = .ok (s', flow) → I s')
    {r : Result α} {s : St α} (h : minimize u o c = .ok (r, s)) :
    (∃ i, initEval u c = .ok i ∧ targetReached (i.f0 / i.sf.scale) i.ftarget = true ∧
      (r, s) = earlyResult c i) ∨
    ∃ s1 t su w, I s1 ∧ s = { s1 with task := t, success := su, warnflag := w } ∧
      r = s.result := by
  obtain ⟨i, hi, ⟨ht, he⟩ | ⟨-, s0, s1, h0, h1, rfl, rfl⟩⟩ := minimize_ok.1 h
  · exact Or.inl ⟨i, hi, ht, he⟩
  · obtain ⟨t, su, w, e⟩ := classify_eq c s1
    exact Or.inr ⟨s1, t, su, w, mainLoop_inv step _ s0 s1 (start i s0 hi h0) h1, e, rfl⟩

end loop
end Lbfgsb
