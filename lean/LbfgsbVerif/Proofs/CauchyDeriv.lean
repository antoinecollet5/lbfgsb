/-
  C08: the quantities `f'`, `f''` the breakpoint loop of `cauchy` carries are the first and second
  derivative of the quadratic model along the projected path at the start of the current segment
  (ordered field, exact product with a symmetric middle matrix, floor on `f''` inactive).
-/
import LbfgsbVerif.Proofs.Quadratic
import LbfgsbVerif.Proofs.CauchyPath

namespace Lbfgsb
open Matrix
variable {K : Type} [Field K] [LinearOrder K] [IsStrictOrderedRing K]

theorem update_zero_eq {n : Nat} (D : Fin n → K) (ib : Fin n) :
    Function.update D ib 0 = D + Pi.single ib (-(D ib)) := by
  funext r
  by_cases h : r = ib
  · rw [h, Function.update_self, Pi.add_apply, Pi.single_eq_same, add_neg_cancel]
  · rw [Function.update_of_ne h, Pi.add_apply, Pi.single_eq_of_ne h, add_zero]

/-- the update of `f'` -/
theorem f1_update {n : Nat} (B : Matrix (Fin n) (Fin n) K) (G D Z : Fin n → K) (ib : Fin n) (dt gb : K)
    (hG : G ib = gb) :
    G ⬝ᵥ (D + Pi.single ib gb) + (D + Pi.single ib gb) ⬝ᵥ (B *ᵥ (Z + dt • D)) =
      (G ⬝ᵥ D + D ⬝ᵥ (B *ᵥ Z)) + dt * (D ⬝ᵥ (B *ᵥ D)) + gb * gb + gb * (B *ᵥ (Z + dt • D)) ib := by
  rw [dotProduct_add, add_dotProduct, dotProduct_single, single_dotProduct, hG]
  rw [mulVec_add, mulVec_smul, dotProduct_add, dotProduct_smul, smul_eq_mul]
  ring

theorem single_eq_smul_one {n : Nat} (r : Fin n) (g : K) : (Pi.single r g : Fin n → K) = g • Pi.single r 1 := by
  rw [← Pi.single_smul', smul_eq_mul, mul_one]

/-- the update of `f''` -/
theorem f2_update {n : Nat} (B : Matrix (Fin n) (Fin n) K) (hB : Bᵀ = B) (D : Fin n → K) (ib : Fin n) (gb : K) :
    (D + Pi.single ib gb) ⬝ᵥ (B *ᵥ (D + Pi.single ib gb)) =
      D ⬝ᵥ (B *ᵥ D) + gb * (B *ᵥ ((1 + 1 : K) • D + gb • Pi.single ib 1)) ib := by
  have h1 : D ⬝ᵥ (B *ᵥ Pi.single ib gb) = gb * (B *ᵥ D) ib := by
    rw [quad_symm B hB, single_dotProduct]
  rw [add_dotProduct, mulVec_add, dotProduct_add, dotProduct_add, h1, single_dotProduct, single_dotProduct]
  rw [mulVec_add, mulVec_smul, mulVec_smul]
  rw [single_eq_smul_one ib gb, mulVec_smul]
  simp only [Pi.add_apply, Pi.smul_apply, smul_eq_mul]
  ring

/-- with `useFactor = false` the product with the middle matrix is zero: the `if` of the source can be dropped -/
theorem if_useFactor_sub_mv (i : CauchyIn K) (a g : K) (w c : List K) :
    (if i.useFactor then a - g * dot w (i.mv c) else a) = a - g * dot w (i.mv c) := by
  cases h : i.useFactor
  · rw [if_neg Bool.false_ne_true, mv_of_not_useFactor i h, dot_zeros, mul_zero, sub_zero]
  · rfl

/-- displacement from `x` at the start of the current segment -/
def zOf (i : CauchyIn K) (n : Nat) (s : CauchySt K) : Fin n → K :=
  vec n s.xcp + s.tOld • vec n s.d - vec n i.x

/-- the derivative bookkeeping of the breakpoint loop, at the displacement `zOf`. `f2_eq` holds only while some variable still moves:
once `d = 0` the source's `f''` is the floor `max(0, eps·f''₀)`, not the curvature `0` -/
structure DInv (i : CauchyIn K) (n k : Nat) (Mm : Matrix (Fin k) (Fin k) K) (s : CauchySt K) : Prop where
  len_p : s.p.length = k
  len_c : s.c.length = k
  p_eq : vec k s.p = (wmat n k i.W)ᵀ *ᵥ vec n s.d
  c_eq : vec k s.c = (wmat n k i.W)ᵀ *ᵥ zOf i n s
  f1_eq : s.f1 = vec n i.g ⬝ᵥ vec n s.d + vec n s.d ⬝ᵥ (bmat i.theta (wmat n k i.W) Mm *ᵥ zOf i n s)
  f2_eq : vec n s.d ≠ 0 → s.f2 = vec n s.d ⬝ᵥ (bmat i.theta (wmat n k i.W) Mm *ᵥ vec n s.d)
  dtm_eq : s.dtm = -s.f1 / s.f2

theorem DInv.set_found {i : CauchyIn K} {n k : Nat} {Mm : Matrix (Fin k) (Fin k) K} {s : CauchySt K}
    (h : DInv i n k Mm s) (b : Bool) : DInv i n k Mm { s with found := b } :=
  { h with }

theorem QCtx.dot_mv {i : CauchyIn K} {n k : Nat} {Mm : Matrix (Fin k) (Fin k) K} (hq : QCtx i n k Mm)
    (w v : List K) (hw : w.length = k) (hv : v.length = k) :
    dot w (i.mv v) = vec k w ⬝ᵥ (Mm *ᵥ vec k v) := by
  obtain ⟨l1, l2⟩ := hq.hmv v hv
  rw [dot_vec k _ _ hw l1, l2]

theorem transpose_mulVec_single {n k : Nat} (Wm : Matrix (Fin n) (Fin k) K) (r : Fin n) (g : K) :
    Wmᵀ *ᵥ Pi.single r g = g • Wm r := by
  funext j
  simp only [mulVec, dotProduct_single, transpose_apply, Pi.smul_apply, smul_eq_mul]
  exact mul_comm _ _

theorem DInv.c_step {i : CauchyIn K} {n k : Nat} {Mm : Matrix (Fin k) (Fin k) K} {s : CauchySt K}
    (h : DInv i n k Mm s) (t : K) :
    (vadd s.c (smul t s.p)).length = k ∧
    vec k (vadd s.c (smul t s.p)) = (wmat n k i.W)ᵀ *ᵥ (zOf i n s + t • vec n s.d) := by
  obtain ⟨hl, hv⟩ := vec_axpy k s.c s.p t h.len_c h.len_p
  refine ⟨hl, ?_⟩
  rw [hv, h.c_eq, h.p_eq, mulVec_add, mulVec_smul]

theorem zOf_advance (i : CauchyIn K) (n : Nat) (f2org : K) (s : CauchySt K) (ib : Nat) (tcur : K) (hib : ib < n)
    (hlx : s.xcp.length = n) (hld : s.d.length = n)
    (hxb : s.xcp.getD ib 0 = i.x.getD ib 0) (hdb : s.d.getD ib 0 = -(i.g.getD ib 0))
    (hgne : i.g.getD ib 0 ≠ 0)
    (hbp : headBound i ib = i.x.getD ib 0 - tcur * i.g.getD ib 0) :
    zOf i n (cauchyAdvance i f2org s ib tcur) = zOf i n s + (tcur - s.tOld) • vec n s.d ∧
    headBound i ib - i.x.getD ib 0 = (zOf i n s + (tcur - s.tOld) • vec n s.d) ⟨ib, hib⟩ := by
  have hz : headBound i ib - i.x.getD ib 0 = (zOf i n s + (tcur - s.tOld) • vec n s.d) ⟨ib, hib⟩ := by
    show _ = s.xcp.getD ib 0 + s.tOld * s.d.getD ib 0 - i.x.getD ib 0 + (tcur - s.tOld) * s.d.getD ib 0
    rw [hxb, hdb, hbp]
    ring
  refine ⟨?_, hz⟩
  rw [zOf, cauchyAdvance_xcp i f2org s ib tcur hdb hgne, cauchyAdvance_d, cauchyAdvance_tOld,
    vec_set_nat n s.xcp ib hib _ hlx, vec_set_nat n s.d ib hib 0 hld]
  funext r
  by_cases hr : r = ⟨ib, hib⟩
  · subst hr
    rw [← hz]
    simp only [Pi.add_apply, Pi.sub_apply, Pi.smul_apply, smul_eq_mul, Function.update_self, mul_zero, add_zero]
    rfl
  · simp only [zOf, Pi.add_apply, Pi.sub_apply, Pi.smul_apply, smul_eq_mul, Function.update_of_ne hr]
    ring

theorem advance_dinv (i : CauchyIn K) (n k : Nat) (Mm : Matrix (Fin k) (Fin k) K) (hq : QCtx i n k Mm)
    (f2org : K) (s : CauchySt K) (ib : Nat) (tcur : K) (hib : ib < n)
    (hlx : s.xcp.length = n) (hld : s.d.length = n)
    (hxb : s.xcp.getD ib 0 = i.x.getD ib 0) (hdb : s.d.getD ib 0 = -(i.g.getD ib 0))
    (hgne : i.g.getD ib 0 ≠ 0)
    (hbp : headBound i ib = i.x.getD ib 0 - tcur * i.g.getD ib 0)
    (hfloor : vec n (s.d.set ib 0) ≠ 0 →
      i.epsFsec * f2org ≤ vec n (s.d.set ib 0) ⬝ᵥ (bmat i.theta (wmat n k i.W) Mm *ᵥ vec n (s.d.set ib 0)))
    (h : DInv i n k Mm s) : DInv i n k Mm (cauchyAdvance i f2org s ib tcur) := by
  have hBs := bmat_symm i.theta (wmat n k i.W) Mm hq.hsym
  have hlw : (i.W.getD ib []).length = k := hq.hrow ib hib
  have hDib : vec n s.d ⟨ib, hib⟩ = -(i.g.getD ib 0) := hdb
  have hDne : vec n s.d ≠ 0 := vec_ne_zero_of_getD _ ib hib (hdb ▸ neg_ne_zero.2 hgne)
  have hD' : vec n (s.d.set ib 0) = vec n s.d + Pi.single ⟨ib, hib⟩ (i.g.getD ib 0) := by
    rw [vec_set_nat n s.d ib hib 0 hld, update_zero_eq, hDib, neg_neg]
  obtain ⟨hZ', hzb⟩ := zOf_advance i n f2org s ib tcur hib hlx hld hxb hdb hgne hbp
  -- the three list combinations of the pass are `Wᵀ` of the corresponding vectors
  have hwrow := vec_row n k i.W ⟨ib, hib⟩
  obtain ⟨hlc', hc'⟩ := h.c_step (tcur - s.tOld)
  obtain ⟨hlp', hp'⟩ := vec_axpy k s.p (i.W.getD ib []) (i.g.getD ib 0) h.len_p hlw
  obtain ⟨hl2, h2p⟩ := vec_axpy k (smul (1 + 1) s.p) (i.W.getD ib []) (i.g.getD ib 0)
    (by rw [smul_length, h.len_p]) hlw
  rw [h.p_eq, hwrow, ← transpose_mulVec_single, ← mulVec_add, ← hD'] at hp'
  rw [vec_smul k _ _, h.p_eq, hwrow, ← transpose_mulVec_single, single_eq_smul_one, ← mulVec_smul,
    ← mulVec_add] at h2p
  refine ⟨hlp', hlc', hp', ?_, ?_, ?_, rfl⟩
  · rw [hZ']
    exact hc'
  · -- the new `f'` as the source computes it (`f' + Δt f'' + g_b² + θ g_b z_b − g_b w_b·M c`) against the derivative at the new point
    -- expanded by `f1_update`; `w_b·M c` and `θ z_b` together are the row `(B z)_b`; the last four rewrites regroup the sum
    rw [hZ', cauchyAdvance_f1, if_useFactor_sub_mv, pinTo_eq_headBound i s ib hdb hgne, hq.dot_mv _ _ hlw hlc', hc', hwrow,
      cauchyAdvance_d, hD', f1_update _ (vec n i.g) (vec n s.d) (zOf i n s) ⟨ib, hib⟩ (tcur - s.tOld) (i.g.getD ib 0) rfl,
      bmat_row, ← hzb, ← h.f2_eq hDne, ← h.f1_eq, mul_add (i.g.getD ib 0), mul_sub (i.g.getD ib 0), ← add_assoc,
      ← add_sub_assoc]
  · intro hne
    have hraw : s.f2 - i.g.getD ib 0 * i.g.getD ib 0 * i.theta - i.g.getD ib 0 * dot (i.W.getD ib [])
        (i.mv (vadd (smul (1 + 1) s.p) (smul (i.g.getD ib 0) (i.W.getD ib [])))) =
        vec n (s.d.set ib 0) ⬝ᵥ (bmat i.theta (wmat n k i.W) Mm *ᵥ vec n (s.d.set ib 0)) := by
      rw [hq.dot_mv _ _ hlw hl2, h2p, hwrow, hD', f2_update _ hBs (vec n s.d) ⟨ib, hib⟩ (i.g.getD ib 0),
        ← h.f2_eq hDne, bmat_row, Pi.add_apply, Pi.smul_apply, Pi.smul_apply, Pi.single_eq_same, hDib]
      simp only [smul_eq_mul]
      ring
    rw [cauchyAdvance_f2, if_useFactor_sub_mv, hraw]
    exact if_neg (not_lt.2 (hfloor hne))

end Lbfgsb
