/-
  One coordinate of the projected path `t ↦ P(x − t g)`: its breakpoint `bp1`, the initial direction `d01`,
  and the projection `clip1`. Everything the loop invariants say coordinate-wise rests on `clip1_path`:
  a feasible variable moves along `−g` until its breakpoint and rests on its bound from then on.
-/
import LbfgsbVerif.Model.Cauchy
import LbfgsbVerif.Proofs.Basic
import Mathlib.Algebra.Order.Field.Basic

namespace Lbfgsb
variable {α : Type} [Field α] [LinearOrder α] [IsStrictOrderedRing α]

namespace C01

def KKT1 (x g l u : α) : Prop := g = 0 ∨ (x = l ∧ 0 < g) ∨ (x = u ∧ g < 0)

/-- one coordinate of `breakpoints` -/
def bp1 (x g l u : α) : Option α :=
  if feq g 0 then none else if g < 0 then some ((x - u) / g) else some ((x - l) / g)

/-- one coordinate of `cauchyD0` -/
def d01 (t : Option α) (g : α) : α :=
  match t with
  | some v => if feq v 0 then 0 else -g
  | none => -g

theorem feq_zero_iff (a : α) : feq a 0 = true ↔ a = 0 := feq_iff a 0

theorem breakpoints_cons (x g l u : α) (xs gs ls us : Vec α) :
    breakpoints (x :: xs) (g :: gs) (l :: ls) (u :: us) = bp1 x g l u :: breakpoints xs gs ls us := rfl

theorem cauchyD0_cons (t : Option α) (ts : List (Option α)) (g : α) (gs : Vec α) :
    cauchyD0 (t :: ts) (g :: gs) = d01 t g :: cauchyD0 ts gs := by
  cases t <;> rfl

theorem bp1_of_ne {x g l u : α} (hg : g ≠ 0) : bp1 x g l u = some ((x - if g < 0 then u else l) / g) := by
  rw [bp1, if_neg fun h => hg ((feq_zero_iff g).1 h)]
  split <;> rfl

theorem bp1_eq_none {x g l u : α} : bp1 x g l u = none ↔ g = 0 := by
  by_cases hg : g = 0
  · exact iff_of_true (if_pos ((feq_zero_iff g).2 hg)) hg
  · exact iff_of_false (bp1_of_ne hg ▸ Option.some_ne_none _) hg

theorem bp1_eq_some {x g l u v : α} (h : bp1 x g l u = some v) :
    g ≠ 0 ∧ (if g < 0 then u else l) = x - v * g := by
  have hg : g ≠ 0 := fun h0 => nomatch (bp1_eq_none.2 h0).symm.trans h
  rw [bp1_of_ne hg, Option.some.injEq] at h
  exact ⟨hg, by rw [← h, div_mul_cancel₀ _ hg, sub_sub_cancel]⟩

theorem d01_some (v g : α) : d01 (some v) g = if v = 0 then 0 else -g := by
  simp only [d01, feq_zero_iff]

theorem d01_eq (t : Option α) (g : α) : d01 t g = if t = some 0 then 0 else -g := by
  cases t with
  | none => exact (if_neg nofun).symm
  | some v => simp only [d01_some, Option.some.injEq]

theorem d01_descent (t : Option α) (g : α) : g * d01 t g = -(d01 t g * d01 t g) := by
  rw [d01_eq]
  split
  · rw [mul_zero, mul_zero, neg_zero]
  · rw [mul_neg, neg_mul_neg]

theorem bp1_nonneg {x g l u v : α} (hl : l ≤ x) (hu : x ≤ u) (h : bp1 x g l u = some v) : 0 ≤ v := by
  obtain ⟨hg, hb⟩ := bp1_eq_some h
  rcases lt_or_gt_of_ne hg with hn | hp
  · rw [if_pos hn] at hb
    have e : v * g = x - u := by rw [hb, sub_sub_cancel]
    exact nonneg_of_mul_nonpos_left (e ▸ sub_nonpos.2 hu) hn
  · rw [if_neg (not_lt.2 hp.le)] at hb
    have e : v * g = x - l := by rw [hb, sub_sub_cancel]
    exact nonneg_of_mul_nonneg_left (e ▸ sub_nonneg.2 hl) hp

/-- one coordinate of the ray `t ↦ x − t g` moves up for `g ≤ 0` and down for `g ≥ 0`. Stated once for `clip1_path` and
`C08.between_of_ends`: the order lemmas under it cost instance searches of ≈ 400 k in every proof that calls them -/
theorem ray_monotone {g : α} (hg : g ≤ 0) (x : α) : Monotone fun t => x - t * g :=
  fun _ _ h => sub_le_sub_left (mul_le_mul_of_nonpos_right h hg) x

theorem ray_antitone {g : α} (hg : 0 ≤ g) (x : α) : Antitone fun t => x - t * g :=
  fun _ _ h => sub_le_sub_left (mul_le_mul_of_nonneg_right h hg) x

theorem clip1_path {x g l u v τ : α} (hl : l ≤ x) (hu : x ≤ u) (h : bp1 x g l u = some v) (hτ : 0 ≤ τ) :
    clip1 l u (x - τ * g) = x - min τ v * g := by
  obtain ⟨hg, hb⟩ := bp1_eq_some h
  have e : x - 0 * g = x := by rw [zero_mul, sub_zero]
  -- the coordinate moves monotonically from `x` towards the bound it meets at `τ = v`, so clipping is `min` or `max` with that bound
  rcases lt_or_gt_of_ne hg with hn | hp
  · rw [if_pos hn] at hb
    have hm := ray_monotone hn.le x
    rw [clip1_of_lo_le (hl.trans (e.ge.trans (hm hτ))), hb]
    exact (hm.map_min (a := τ) (b := v)).symm
  · rw [if_neg (not_lt.2 hp.le)] at hb
    have hm := ray_antitone hp.le x
    rw [clip1_of_le_hi (((hm hτ).trans_eq e).trans hu), hb]
    exact (hm.map_min (a := τ) (b := v)).symm

theorem kkt1_iff_bp (x g l u : α) : KKT1 x g l u ↔ bp1 x g l u = none ∨ bp1 x g l u = some 0 := by
  unfold KKT1
  by_cases hg : g = 0
  · exact iff_of_true (.inl hg) (.inl (bp1_eq_none.2 hg))
  · -- with `g ≠ 0` both sides say: `x` is on the bound the sign of `g` selects
    rw [bp1_of_ne hg, or_iff_right (Option.some_ne_none _), Option.some.injEq, div_eq_zero_iff, or_iff_left hg,
      sub_eq_zero, or_iff_right hg]
    rcases lt_or_gt_of_ne hg with hn | hp
    · rw [if_pos hn, and_iff_left hn, or_iff_right fun h => lt_asymm hn h.2]
    · rw [if_neg (not_lt.2 hp.le), and_iff_left hp, or_iff_left fun h => lt_asymm hp h.2]

end C01
open C01

theorem getD_breakpoints (x g lb ub : Vec α) (j : Nat) (hj : j < x.length) (h1 : g.length = x.length)
    (h2 : lb.length = x.length) (h3 : ub.length = x.length) :
    (breakpoints x g lb ub).getD j none = bp1 (x.getD j 0) (g.getD j 0) (lb.getD j 0) (ub.getD j 0) := by
  induction x generalizing g lb ub j with
  | nil => exact absurd hj (Nat.not_lt_zero _)
  | cons xi xs ih =>
    obtain ⟨gi, gs, rfl⟩ := List.exists_cons_of_length_eq_add_one h1
    obtain ⟨li, ls, rfl⟩ := List.exists_cons_of_length_eq_add_one h2
    obtain ⟨ui, us, rfl⟩ := List.exists_cons_of_length_eq_add_one h3
    cases j with
    | zero => rfl
    | succ j =>
      exact ih gs ls us j (Nat.lt_of_succ_lt_succ hj) (Nat.succ.inj h1) (Nat.succ.inj h2) (Nat.succ.inj h3)

theorem getD_cauchyD0 (t : List (Option α)) (g : Vec α) (j : Nat) (hj : j < g.length) (h : t.length = g.length) :
    (cauchyD0 t g).getD j 0 = d01 (t.getD j none) (g.getD j 0) := by
  induction g generalizing t j with
  | nil => exact absurd hj (Nat.not_lt_zero _)
  | cons gi gs ih =>
    obtain ⟨a, ts, rfl⟩ := List.exists_cons_of_length_eq_add_one h
    rw [cauchyD0_cons]
    cases j with
    | zero => rfl
    | succ j => exact ih ts j (Nat.lt_of_succ_lt_succ hj) (Nat.succ.inj h)

/-- `PathInv` in one coordinate at time `t`: pinned since a breakpoint `v ≤ t`, or untouched -/
def CoordAt (x g l u t xcp d : α) : Prop :=
  (∃ v, bp1 x g l u = some v ∧ 0 < v ∧ v ≤ t ∧ d = 0 ∧ xcp = (if g < 0 then u else l)) ∨
  (xcp = x ∧ d = d01 (bp1 x g l u) g)

theorem CoordAt.mono {x g l u t t' xcp d : α} (h : CoordAt x g l u t xcp d) (ht : t ≤ t') :
    CoordAt x g l u t' xcp d :=
  h.imp (fun ⟨v, a, b, c, e⟩ => ⟨v, a, b, c.trans ht, e⟩) id

theorem CoordAt.dir_zero {x g l u t xcp d : α} (h : CoordAt x g l u t xcp d) (h0 : bp1 x g l u = some 0) : d = 0 := by
  rcases h with ⟨_, _, _, _, hd, _⟩ | ⟨-, hd⟩
  · exact hd
  · rw [hd, h0, d01_some, if_pos rfl]

theorem path_coord (x g l u tF : α) (hl : l ≤ x) (hu : x ≤ u) (htF : 0 ≤ tF) (xcp d : α)
    (h : CoordAt x g l u tF xcp d) :
    clip1 l u (xcp + tF * d) = clip1 l u (x - tF * g) := by
  rcases h with ⟨v, hv, hv0, hvt, rfl, rfl⟩ | ⟨rfl, rfl⟩
  · rw [mul_zero, add_zero, (bp1_eq_some hv).2, clip1_path hl hu hv hv0.le, clip1_path hl hu hv htF, min_self,
      min_eq_right hvt]
  · cases hb : bp1 xcp g l u with
    | none => rw [d01, mul_neg, sub_eq_add_neg]
    | some v =>
      rw [d01_some]
      by_cases hv0 : v = 0
      · rw [if_pos hv0, mul_zero, add_zero, clip1_path hl hu hb htF, hv0, min_eq_right htF, zero_mul, sub_zero]
        exact clip1_of_mem (not_lt.2 hl) (not_lt.2 hu)
      · rw [if_neg hv0, mul_neg, sub_eq_add_neg]

theorem seg_coord (x g l u τ : α) (hl : l ≤ x) (hu : x ≤ u) (hτ : 0 ≤ τ) (xcp d : α)
    (h : CoordAt x g l u τ xcp d) (hle : ∀ v, bp1 x g l u = some v → d ≠ 0 → τ ≤ v) :
    clip1 l u (x - τ * g) = xcp + τ * d := by
  rcases h with ⟨v, hv, hv0, hvt, rfl, rfl⟩ | ⟨rfl, hd⟩
  · rw [mul_zero, add_zero, (bp1_eq_some hv).2, clip1_path hl hu hv hτ, min_eq_right hvt]
  · cases hb : bp1 xcp g l u with
    | none =>
      rw [hd, hb, bp1_eq_none.1 hb, mul_zero, sub_zero, d01, neg_zero, mul_zero, add_zero]
      exact clip1_of_mem (not_lt.2 hl) (not_lt.2 hu)
    | some v =>
      rw [hb, d01_some] at hd
      rw [clip1_path hl hu hb hτ]
      by_cases hv0 : v = 0
      · rw [hd, if_pos hv0, hv0, min_eq_right hτ, zero_mul, mul_zero, sub_zero, add_zero]
      · rw [if_neg hv0] at hd
        rw [min_eq_left (hle v hb (hd ▸ neg_ne_zero.2 (bp1_eq_some hb).1)), hd, mul_neg, sub_eq_add_neg]

end Lbfgsb
