/-
  C08: the generalized Cauchy point computed by the model `cauchy` lies on the projected path: it is `P(x − t g)` for some `t ≥ 0`
  (ordered field); the loop invariant is `PathInv`. The vocabulary of the later Cauchy files is defined here: the path `pathAt`, and
  the parts of `cauchy` by name — `f2orgOf`, `cauchyInit`, `lastStep`, `cauchyFinish`, assembled by `cauchy_eq` (by `rfl`).
-/
import LbfgsbVerif.Spec.Quadratic
import LbfgsbVerif.Props.C08
import LbfgsbVerif.Proofs.CauchyCoord

namespace Lbfgsb
open C01
variable {K : Type} [Field K] [LinearOrder K] [IsStrictOrderedRing K]

def headBound (i : CauchyIn K) (j : Nat) : K :=
  if i.g.getD j 0 < 0 then i.ub.getD j 0 else i.lb.getD j 0

/-- invariant of the breakpoint loop; `P` = the variables pinned so far -/
structure PathInv (i : CauchyIn K) (t : List (Option K)) (d0 : Vec K) (s : CauchySt K) (P : List Nat) : Prop where
  len_x : s.xcp.length = i.x.length
  len_d : s.d.length = i.x.length
  tOld_nonneg : 0 ≤ s.tOld
  pinned : ∀ j ∈ P, j < i.x.length ∧ ∃ v, t.getD j none = some v ∧ 0 < v ∧ v ≤ s.tOld ∧
    s.d.getD j 0 = 0 ∧ s.xcp.getD j 0 = headBound i j
  free : ∀ j, j < i.x.length → j ∉ P → s.xcp.getD j 0 = i.x.getD j 0 ∧ s.d.getD j 0 = d0.getD j 0

theorem PathInv.set_found {i : CauchyIn K} {t : List (Option K)} {d0 : Vec K} {s : CauchySt K} {P : List Nat}
    (h : PathInv i t d0 s P) (b : Bool) : PathInv i t d0 { s with found := b } P :=
  { h with }

theorem PathInv.d_pinned {i : CauchyIn K} {t : List (Option K)} {d0 : Vec K} {s : CauchySt K} {P : List Nat}
    (h : PathInv i t d0 s P) {j : Nat} (hj : j ∈ P) : s.d.getD j 0 = 0 := by
  obtain ⟨-, v, -, -, -, hd, -⟩ := h.pinned j hj
  exact hd

theorem pinTo_eq_headBound (i : CauchyIn K) (s : CauchySt K) (ib : Nat)
    (hdb : s.d.getD ib 0 = -(i.g.getD ib 0)) (hgne : i.g.getD ib 0 ≠ 0) : pinTo i s ib = headBound i ib := by
  rw [pinTo, hdb, headBound]
  rcases lt_or_gt_of_ne hgne with h | h
  · rw [if_pos (neg_pos.2 h), if_pos h]
  · rw [if_neg (not_lt.2 (neg_nonpos.2 h.le)), if_pos (neg_neg_iff_pos.2 h), if_neg (not_lt.2 h.le)]

theorem cauchyAdvance_xcp (i : CauchyIn K) (f2org : K) (s : CauchySt K) (ib : Nat) (tcur : K)
    (hdb : s.d.getD ib 0 = -(i.g.getD ib 0)) (hgne : i.g.getD ib 0 ≠ 0) :
    (cauchyAdvance i f2org s ib tcur).xcp = s.xcp.set ib (headBound i ib) :=
  congrArg (s.xcp.set ib) (pinTo_eq_headBound i s ib hdb hgne)

theorem advance_pathinv (i : CauchyIn K) (t : List (Option K)) (d0 : Vec K) (f2org : K) (s : CauchySt K)
    (P : List Nat) (ib : Nat) (tcur : K) (hi : PathInv i t d0 s P) (hib : ib < i.x.length) (hnp : ib ∉ P)
    (htc : t.getD ib none = some tcur) (htcur : 0 < tcur) (hle : s.tOld ≤ tcur)
    (hdd : d0.getD ib 0 = -(i.g.getD ib 0)) (hgne : i.g.getD ib 0 ≠ 0) :
    PathInv i t d0 (cauchyAdvance i f2org s ib tcur) (ib :: P) := by
  have hdb : s.d.getD ib 0 = -(i.g.getD ib 0) := by rw [(hi.free ib hib hnp).2, hdd]
  have hx := cauchyAdvance_xcp i f2org s ib tcur hdb hgne
  have hd := cauchyAdvance_d i f2org s ib tcur
  refine
    { len_x := by rw [hx, List.length_set, hi.len_x]
      len_d := by rw [hd, List.length_set, hi.len_d]
      tOld_nonneg := htcur.le
      pinned := ?_
      free := ?_ }
  · intro j hj
    rw [hx, hd]
    rcases List.mem_cons.1 hj with rfl | hj
    · exact ⟨hib, tcur, htc, htcur, le_rfl, getD_set_self _ _ _ _ (hi.len_d ▸ hib), getD_set_self _ _ _ _ (hi.len_x ▸ hib)⟩
    · obtain ⟨hjn, v, hv, hv0, hvt, hdj, hxj⟩ := hi.pinned j hj
      have hne : ib ≠ j := fun h => hnp (h ▸ hj)
      exact ⟨hjn, v, hv, hv0, hvt.trans hle, by rw [getD_set_ne _ _ _ hne, hdj], by rw [getD_set_ne _ _ _ hne, hxj]⟩
  · intro j hj hjn
    have hne : ib ≠ j := fun h => hjn (h ▸ List.mem_cons_self ..)
    rw [hx, hd, getD_set_ne _ _ _ hne, getD_set_ne _ _ _ hne]
    exact hi.free j hj fun h => hjn (List.mem_cons_of_mem _ h)

/-- one pass keeps `PathInv`. The hypotheses are bundled the way `foldl_order` hands them over: `h` is its invariant `I` (the
path invariant, and that the breakpoints still to come are `≥ t_old` unless the search has stopped), `hq` its condition `Q` on the index -/
theorem step_pathinv (i : CauchyIn K) (t : List (Option K)) (d0 : Vec K) (f2org : K) (s : CauchySt K)
    (P : List Nat) (ib : Nat) (rest : List Nat)
    (h : PathInv i t d0 s P ∧ (s.found = true ∨ ∀ k ∈ ib :: rest, ∀ v, t.getD k none = some v → s.tOld ≤ v))
    (hq : ib < i.x.length ∧ bpPos (t.getD ib none) = true ∧
      ∀ v, t.getD ib none = some v → d0.getD ib 0 = -(i.g.getD ib 0) ∧ i.g.getD ib 0 ≠ 0)
    (hnp : ib ∉ P) (hsort : ∀ j ∈ rest, bpLe (t.getD ib none) (t.getD j none) = true) :
    ∃ P', (P' = P ∨ P' = ib :: P) ∧ PathInv i t d0 (cauchyStep i t f2org s ib) P' ∧
      ((cauchyStep i t f2org s ib).found = true ∨
        ∀ k ∈ rest, ∀ v, t.getD k none = some v → (cauchyStep i t f2org s ib).tOld ≤ v) := by
  obtain ⟨hi, hge⟩ := h
  obtain ⟨hib, hpos, hd0⟩ := hq
  rcases cauchyStep_cases i t f2org s ib with ⟨hf, he⟩ | ⟨-, he, -⟩ | ⟨tcur, htc, hf, -, he⟩
  · rw [he]
    exact ⟨P, .inl rfl, hi, .inl hf⟩
  · rw [he]
    exact ⟨P, .inl rfl, hi.set_found true, .inl rfl⟩
  · rw [he]
    have htcur : 0 < tcur := of_decide_eq_true (htc ▸ hpos :)
    have hle : s.tOld ≤ tcur := (hge.resolve_left (hf ▸ Bool.false_ne_true)) ib List.mem_cons_self tcur htc
    obtain ⟨hdd, hgne⟩ := hd0 tcur htc
    exact ⟨ib :: P, .inr rfl, advance_pathinv i t d0 f2org s P ib tcur hi hib hnp htc htcur hle hdd hgne,
      .inr fun k hk => C08.le_of_le_head t ib rest hsort tcur
        (fun tc h => (Option.some.inj (htc.symm.trans h)).le) k (List.mem_cons_of_mem _ hk)⟩

theorem fold_inv (i : CauchyIn K) (t : List (Option K)) (d0 : Vec K) (f2org : K)
    (rest : List Nat) (s : CauchySt K) (P : List Nat) (hi : PathInv i t d0 s P)
    (hall : ∀ ib ∈ rest, (ib < i.x.length ∧ bpPos (t.getD ib none) = true ∧
      ∀ v, t.getD ib none = some v → d0.getD ib 0 = -(i.g.getD ib 0) ∧ i.g.getD ib 0 ≠ 0) ∧ ib ∉ P)
    (hnd : rest.Nodup) (hsort : rest.Pairwise fun a b => bpLe (t.getD a none) (t.getD b none) = true)
    (hq : s.found = true ∨ ∀ k ∈ rest, ∀ v, t.getD k none = some v → s.tOld ≤ v) :
    ∃ P', PathInv i t d0 (rest.foldl (cauchyStep i t f2org) s) P' :=
  (foldl_order (cauchyStep i t f2org) _ _
    (fun s P rest => PathInv i t d0 s P ∧
      (s.found = true ∨ ∀ k ∈ rest, ∀ v, t.getD k none = some v → s.tOld ≤ v))
    (fun s P ib rest h hq hnp _ hs => step_pathinv i t d0 f2org s P ib rest h hq hnp hs)
    rest s P ⟨hi, hq⟩ hall hnd hsort).imp fun _ h => h.1

def pathAt (i : CauchyIn K) (τ : K) : Vec K := clip (vsub i.x (smul τ i.g)) i.lb i.ub

theorem pathAt_length (i : CauchyIn K) (hg : i.g.length = i.x.length) (τ : K) :
    (pathAt i τ).length = i.x.length := by
  rw [pathAt, clip_length, length_vsub_smul _ _ _ hg]

theorem pathAt_zero (i : CauchyIn K) (hbox : InBoxF i.lb i.ub i.x) (hg : i.g.length = i.x.length) : pathAt i 0 = i.x := by
  rw [pathAt, vsub_smul_zero i.x i.g hg]
  exact clip_of_inBox (inBoxF_iff_inBox.1 hbox)

theorem getD_pathAt (i : CauchyIn K) (hbox : InBoxF i.lb i.ub i.x) (hg : i.g.length = i.x.length) (τ : K)
    (j : Nat) (hj : j < i.x.length) :
    (pathAt i τ).getD j 0 = clip1 (i.lb.getD j 0) (i.ub.getD j 0) (i.x.getD j 0 - τ * i.g.getD j 0) := by
  have l := length_vsub_smul i.x i.g τ hg
  rw [pathAt, getD_clip _ _ _ _ j (l ▸ hj) ((inBoxF_lengths hbox).1.trans l.symm) ((inBoxF_lengths hbox).2.trans l.symm),
    getD_vsub_smul _ _ _ j hj (hg ▸ hj)]

theorem breakpoints_length_of_box (i : CauchyIn K) (hbox : InBoxF i.lb i.ub i.x) (hg : i.g.length = i.x.length) :
    (breakpoints i.x i.g i.lb i.ub).length = i.x.length :=
  C08.breakpoints_length _ _ _ _ hg (inBoxF_lengths hbox).1 (inBoxF_lengths hbox).2

theorem cauchyD0_length_of_box (i : CauchyIn K) (hbox : InBoxF i.lb i.ub i.x) (hg : i.g.length = i.x.length) :
    (cauchyD0 (breakpoints i.x i.g i.lb i.ub) i.g).length = i.x.length := by
  rw [C08.cauchyD0_length _ _ ((breakpoints_length_of_box i hbox hg).trans hg.symm), hg]

theorem getD_breakpoints_of_box (i : CauchyIn K) (hbox : InBoxF i.lb i.ub i.x) (hg : i.g.length = i.x.length)
    (j : Nat) (hj : j < i.x.length) :
    (breakpoints i.x i.g i.lb i.ub).getD j none =
      bp1 (i.x.getD j 0) (i.g.getD j 0) (i.lb.getD j 0) (i.ub.getD j 0) :=
  getD_breakpoints i.x i.g i.lb i.ub j hj hg (inBoxF_lengths hbox).1 (inBoxF_lengths hbox).2

theorem getD_cauchyD0_of_box (i : CauchyIn K) (hbox : InBoxF i.lb i.ub i.x) (hg : i.g.length = i.x.length)
    (j : Nat) (hj : j < i.x.length) :
    (cauchyD0 (breakpoints i.x i.g i.lb i.ub) i.g).getD j 0 =
      d01 ((breakpoints i.x i.g i.lb i.ub).getD j none) (i.g.getD j 0) :=
  getD_cauchyD0 _ _ j (hg ▸ hj) ((breakpoints_length_of_box i hbox hg).trans hg.symm)

section
variable {i : CauchyIn K} {s : CauchySt K} {P : List Nat}

theorem PathInv.coordAt
    (hi : PathInv i (breakpoints i.x i.g i.lb i.ub) (cauchyD0 (breakpoints i.x i.g i.lb i.ub) i.g) s P)
    (hbox : InBoxF i.lb i.ub i.x) (hg : i.g.length = i.x.length) (j : Nat) (hj : j < i.x.length) :
    CoordAt (i.x.getD j 0) (i.g.getD j 0) (i.lb.getD j 0) (i.ub.getD j 0) s.tOld (s.xcp.getD j 0) (s.d.getD j 0) := by
  have hb := getD_breakpoints_of_box i hbox hg j hj
  by_cases hjP : j ∈ P
  · obtain ⟨-, v, hv, hv0, hvt, hdj, hxj⟩ := hi.pinned j hjP
    exact .inl ⟨v, hb ▸ hv, hv0, hvt, hdj, hxj⟩
  · obtain ⟨h1, h2⟩ := hi.free j hj hjP
    refine .inr ⟨h1, ?_⟩
    rw [h2, getD_cauchyD0_of_box i hbox hg j hj, hb]

theorem path_final (hbox : InBoxF i.lb i.ub i.x) (hg : i.g.length = i.x.length) (tF : K)
    (hi : PathInv i (breakpoints i.x i.g i.lb i.ub) (cauchyD0 (breakpoints i.x i.g i.lb i.ub) i.g) s P)
    (hle : s.tOld ≤ tF) :
    clip (vadd s.xcp (smul tF s.d)) i.lb i.ub = pathAt i tF := by
  obtain ⟨hll, hul⟩ := inBoxF_lengths hbox
  have l1 : (vadd s.xcp (smul tF s.d)).length = i.x.length := by
    rw [length_vadd_smul _ _ _ (hi.len_d.trans hi.len_x.symm), hi.len_x]
  refine ext_getD (0 : K) (by rw [clip_length, l1, pathAt_length i hg]) fun j hj => ?_
  rw [clip_length, l1] at hj
  rw [getD_pathAt i hbox hg tF j hj, getD_clip _ _ _ _ j (l1 ▸ hj) (hll.trans l1.symm) (hul.trans l1.symm),
    getD_vadd_smul _ _ _ j (hi.len_x ▸ hj) (hi.len_d ▸ hj)]
  obtain ⟨hlj, huj⟩ := inBoxF_getD hbox j hj
  exact path_coord _ _ _ _ tF hlj huj (hi.tOld_nonneg.trans hle) _ _ (CoordAt.mono (hi.coordAt hbox hg j hj) hle)

end

theorem bp_some_facts (i : CauchyIn K) (hbox : InBoxF i.lb i.ub i.x) (hg : i.g.length = i.x.length)
    (j : Nat) (hj : j < i.x.length) (v : K) (hv : (breakpoints i.x i.g i.lb i.ub).getD j none = some v)
    (hv0 : 0 < v) :
    i.g.getD j 0 ≠ 0 ∧ (cauchyD0 (breakpoints i.x i.g i.lb i.ub) i.g).getD j 0 = -(i.g.getD j 0) ∧
      headBound i j = i.x.getD j 0 - v * i.g.getD j 0 := by
  obtain ⟨hgne, hbd⟩ := bp1_eq_some (getD_breakpoints_of_box i hbox hg j hj ▸ hv)
  refine ⟨hgne, ?_, hbd⟩
  rw [getD_cauchyD0_of_box i hbox hg j hj, hv, d01_some, if_neg hv0.ne']

/-- the initial `f''` without the memory term (`f2_org`) -/
def f2orgOf (i : CauchyIn K) : K :=
  -(i.theta * -(dot (cauchyD0 (breakpoints i.x i.g i.lb i.ub) i.g) (cauchyD0 (breakpoints i.x i.g i.lb i.ub) i.g)))

def cauchyInit (i : CauchyIn K) : CauchySt K :=
  let k := kOf i
  let t := breakpoints i.x i.g i.lb i.ub
  let d0 := cauchyD0 t i.g
  let p0 := wtv i.W d0 k
  let c0 : Vec K := p0.map fun _ => 0
  let f1 := -(dot d0 d0)
  let f2org := -(i.theta * f1)
  let f2 := if i.useFactor then f2org - dot p0 (i.mv p0) else f2org
  { xcp := i.x, d := d0, p := p0, c := c0, f1 := f1, f2 := f2, dtm := -f1 / f2, tOld := 0, found := false }

theorem cauchyInit_p (i : CauchyIn K) : (cauchyInit i).p = wtv i.W (cauchyInit i).d (kOf i) := rfl
theorem cauchyInit_f1 (i : CauchyIn K) : (cauchyInit i).f1 = -(dot (cauchyInit i).d (cauchyInit i).d) := rfl
theorem cauchyInit_f2 (i : CauchyIn K) : (cauchyInit i).f2 =
    if i.useFactor then -(i.theta * (cauchyInit i).f1) - dot (cauchyInit i).p (i.mv (cauchyInit i).p)
    else -(i.theta * (cauchyInit i).f1) := rfl

/-- the value `cauchy` returns from the final loop state -/
def cauchyFinish (i : CauchyIn K) (s : CauchySt K) : Vec K × Vec K :=
  let dtm := if s.dtm < 0 then 0 else s.dtm
  let dtm := if s.d.all (fun a => feq a 0) then 0 else dtm
  let tOld := s.tOld + dtm
  (clip (vadd s.xcp (smul tOld s.d)) i.lb i.ub, vadd s.c (smul dtm s.p))

theorem cauchy_eq (i : CauchyIn K) :
    cauchy i = if (bpOrder (breakpoints i.x i.g i.lb i.ub)).isEmpty then (i.x, (cauchyInit i).c)
      else cauchyFinish i ((bpOrder (breakpoints i.x i.g i.lb i.ub)).foldl
        (cauchyStep i (breakpoints i.x i.g i.lb i.ub) (f2orgOf i)) (cauchyInit i)) := rfl

/-- the step `cauchy` finally takes beyond the last breakpoint passed -/
def lastStep (s : CauchySt K) : K :=
  if s.d.all (fun a => feq a 0) then 0 else if s.dtm < 0 then 0 else s.dtm

theorem cauchyFinish_eq (i : CauchyIn K) (s : CauchySt K) :
    cauchyFinish i s = (clip (vadd s.xcp (smul (s.tOld + lastStep s) s.d)) i.lb i.ub,
      vadd s.c (smul (lastStep s) s.p)) := rfl

theorem lastStep_nonneg (s : CauchySt K) : 0 ≤ lastStep s := by
  unfold lastStep
  split
  · exact le_refl _
  · split
    · exact le_refl _
    · exact not_lt.1 ‹_›

theorem lastStep_lt (s : CauchySt K) (δ : K) (hδ : 0 < δ) (h : s.dtm < δ) : lastStep s < δ := by
  unfold lastStep
  split
  · exact hδ
  · split
    · exact hδ
    · exact h

theorem PathInv.init (i : CauchyIn K) (hbox : InBoxF i.lb i.ub i.x) (hg : i.g.length = i.x.length) (s0 : CauchySt K)
    (h1 : s0.xcp = i.x) (h2 : s0.d = cauchyD0 (breakpoints i.x i.g i.lb i.ub) i.g) (h3 : s0.tOld = 0) :
    PathInv i (breakpoints i.x i.g i.lb i.ub) (cauchyD0 (breakpoints i.x i.g i.lb i.ub) i.g) s0 [] :=
  { len_x := by rw [h1]
    len_d := h2 ▸ cauchyD0_length_of_box i hbox hg
    tOld_nonneg := h3.ge
    pinned := fun _ hj => absurd hj List.not_mem_nil
    free := fun j _ _ => ⟨by rw [h1], by rw [h2]⟩ }

/-- for any start state at `x` with the initial direction: nothing else of `cauchyInit` is needed -/
theorem loop_on_path (i : CauchyIn K) (hbox : InBoxF i.lb i.ub i.x) (hg : i.g.length = i.x.length)
    (s0 : CauchySt K) (f2org : K) (h1 : s0.xcp = i.x)
    (h2 : s0.d = cauchyD0 (breakpoints i.x i.g i.lb i.ub) i.g) (h3 : s0.tOld = 0) :
    ∃ tF, 0 ≤ tF ∧ (cauchyFinish i ((bpOrder (breakpoints i.x i.g i.lb i.ub)).foldl
      (cauchyStep i (breakpoints i.x i.g i.lb i.ub) f2org) s0)).1 = pathAt i tF := by
  have hbt := breakpoints_length_of_box i hbox hg
  obtain ⟨P', hP'⟩ := fold_inv i _ _ f2org _ s0 [] (PathInv.init i hbox hg s0 h1 h2 h3)
    (fun ib hib => by
      obtain ⟨hb1, hb2⟩ := (C08.order_positive _ ib).1 hib
      rw [hbt] at hb1
      exact ⟨⟨hb1, hb2, fun v hv =>
        have hf := bp_some_facts i hbox hg ib hb1 v hv (C08.pos_of_mem_order hib hv)
        ⟨hf.2.1, hf.1⟩⟩, List.not_mem_nil⟩)
    (C08.order_nodup _) (C08.order_sorted _) (.inr fun k hk v hv => h3 ▸ (C08.pos_of_mem_order hk hv).le)
  exact ⟨_, add_nonneg hP'.tOld_nonneg (lastStep_nonneg _),
    path_final hbox hg _ hP' (le_add_of_nonneg_right (lastStep_nonneg _))⟩

end Lbfgsb
