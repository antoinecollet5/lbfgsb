/-
  Two runs of the driver compared, once for any relation `W` between the function wrappers that
  evaluations, counters and logging respect (`WRel`) and any invariant `I` of the first run that
  reads the memory and the target only (`Frame`). The states of the two runs are EQUAL in everything
  the driver computes with (`StRel`: only the wrapper and the ghost lists differ), and the oracles
  are the same. The hooks (`afterEval`; `memStep` + `doCallback`) are the only places where two runs
  can take different code: what they do is a hypothesis (`Hooks`, which also asks that `I` survives
  a failed line search).
-/
import LbfgsbVerif.Proofs.Walk

namespace Lbfgsb
variable {α ε δ : Type}

theorem RelE.bind_fst {T U V T' U' : Type} {R : T → U → Prop} {Q : T' → U' → Prop}
    {ra : Except ε (T × V)} {rb : Except ε (U × V)} {ka : T × V → Except ε T'}
    {kb : U × V → Except ε U'}
    (h : RelE (fun p q => R p.1 q.1 ∧ p.2 = q.2) ra rb)
    (hk : ∀ a b v, R a b → RelE Q (ka (a, v)) (kb (b, v))) : RelE Q (ra >>= ka) (rb >>= kb) :=
  RelE.bind h fun (a, v) (b, v') ⟨hr, e⟩ => by
    obtain rfl : v = v' := e
    exact hk a b v hr

variable {W : SF α → SF α → Prop}

/-- `StRel` for the state of the line search -/
def LRel (W : SF α → SF α → Prop) (a b : LS α δ) : Prop :=
  ∃ sfb ol, b = { a with sf := sfb, olog := ol } ∧ W a.sf sfb

/-- the two states are equal except for the wrapper, `W`-related, and the ghost lists -/
def StRel (W : SF α → SF α → Prop) (a b : St α) : Prop :=
  ∃ sfb cbs ol, b = { a with sf := sfb, cbStates := cbs, olog := ol } ∧ W a.sf sfb

/-- an equation with `c'` on both sides: `rw` puts `c` in place of `c'`, the fields the loop reads
reduce to those of `c`, the others (the hooks' flags, what only `initEval`/`prepare` read) stay
those of `c'` -/
def LoopCfg (c c' : Cfg α) : Prop :=
  c' = { c with hasCallback := c'.hasCallback, hasUpdate := c'.hasUpdate, hasScaler := c'.hasScaler,
                checkpoint := c'.checkpoint, x0 := c'.x0, mode := c'.mode, gtol := c'.gtol,
                  ftarget := c'.ftarget }

theorem LoopCfg.lb {c c' : Cfg α} (h : LoopCfg c c') : c'.lb = c.lb := by rw [h]
theorem LoopCfg.ub {c c' : Cfg α} (h : LoopCfg c c') : c'.ub = c.ub := by rw [h]
theorem LoopCfg.maxls {c c' : Cfg α} (h : LoopCfg c c') : c'.maxls = c.maxls := by rw [h]
theorem LoopCfg.maxfun {c c' : Cfg α} (h : LoopCfg c c') : c'.maxfun = c.maxfun := by rw [h]
theorem LoopCfg.maxiter {c c' : Cfg α} (h : LoopCfg c c') : c'.maxiter = c.maxiter := by rw [h]
theorem LoopCfg.maxcor {c c' : Cfg α} (h : LoopCfg c c') : c'.maxcor = c.maxcor := by rw [h]
theorem LoopCfg.epsSY {c c' : Cfg α} (h : LoopCfg c c') : c'.epsSY = c.epsSY := by rw [h]

theorem iterFail_sim {a b : St α} (h : StRel W a b) :
    StRel W (iterFail a).1 (iterFail b).1 ∧ (iterFail a).2 = (iterFail b).2 := by
  obtain ⟨sfb, cbs, ol, rfl, hw⟩ := h
  unfold iterFail
  dsimp only
  split
  · exact ⟨⟨sfb, cbs, ol, rfl, hw⟩, rfl⟩
  · exact ⟨⟨sfb, cbs, ol, rfl, hw⟩, rfl⟩

section
variable [Sub α]

theorem StRel.result (hn : ∀ {a b : SF α}, W a b → a.nfev = b.nfev)
    (hg : ∀ {a b : SF α}, W a b → a.ngev = b.ngev)
    {a b : St α} (h : StRel W a b) : a.result = b.result := by
  obtain ⟨sfb, cbs, ol, rfl, hw⟩ := h
  simp only [St.result, hn hw, hg hw]

end

variable [Add α] [Mul α] [LT α] [DecidableLT α] [OfNat α 0]

/-- what the walk needs of a relation between the wrappers of the two runs -/
structure WRel (u u' : SFUser α ε) (W : SF α → SF α → Prop) : Prop where
  fg : ∀ {a b} (x : Vec α), W a b →
    RelE (fun p q => W p.1 q.1 ∧ p.2 = q.2) (a.funAndGrad u x) (b.funAndGrad u' x)
  nfev : ∀ {a b}, W a b → a.nfev = b.nfev
  ngev : ∀ {a b}, W a b → a.ngev = b.ngev
  log : ∀ {a b} (k : Call α), W a b →
    W { a with log := a.log ++ [k] } { b with log := b.log ++ [k] }

variable {u u' : User α ε} {o : Oracles α δ}

/-- `hno`: when the stepper asks for no evaluation the wrappers stay as they are and must be related
already; the restart simulation, whose wrappers are related only after the first evaluation, rules
that case out -/
theorem lsStep_sim (x0 d lb ub : Vec α) (l : LS α δ) (sfb : SF α) (ol : List (OReq α))
    (hfg : RelE (fun p q => W p.1 q.1 ∧ p.2 = q.2)
      (l.sf.funAndGrad u.toSFUser
        (trial x0 d lb ub (o.dcIter l.dc l.stp0 l.fm1 l.dphim1 l.task).2.1))
      (sfb.funAndGrad u'.toSFUser
        (trial x0 d lb ub (o.dcIter l.dc l.stp0 l.fm1 l.dphim1 l.task).2.1)))
    (hno : (o.dcIter l.dc l.stp0 l.fm1 l.dphim1 l.task).2.2 ≠ .fg → W l.sf sfb) :
    RelE (fun p q => LRel W p.1 q.1 ∧ p.2 = q.2) (lsStep u o x0 d lb ub l)
      (lsStep u' o x0 d lb ub { l with sf := sfb, olog := ol }) := by
  unfold lsStep
  dsimp only
  refine rel_ite (fun _ => RelE.bind_fst hfg fun a1 b1 a2 h1 => ?_) fun hn =>
    RelE.pure ⟨⟨sfb, _, rfl, hno hn⟩, rfl⟩
  exact RelE.pure ⟨rel_ite (fun _ => ⟨b1, _, rfl, h1⟩) fun _ => ⟨b1, _, rfl, h1⟩, rfl⟩

theorem lsLoop_succ_sim (x0 d lb ub : Vec α) (n : Nat) {l l' : LS α δ}
    (ih : ∀ {l l' : LS α δ}, LRel W l l' →
      RelE (fun p q => LRel W p.1 q.1 ∧ p.2 = q.2) (lsLoop u o x0 d lb ub n l)
        (lsLoop u' o x0 d lb ub n l'))
    (h0 : RelE (fun p q => LRel W p.1 q.1 ∧ p.2 = q.2) (lsStep u o x0 d lb ub l)
      (lsStep u' o x0 d lb ub l')) :
    RelE (fun p q => LRel W p.1 q.1 ∧ p.2 = q.2) (lsLoop u o x0 d lb ub (n + 1) l)
      (lsLoop u' o x0 d lb ub (n + 1) l') := by
  simp only [lsLoop]
  refine RelE.bind_fst h0 fun p1 q1 p2 h1 => ?_
  dsimp only
  split
  · exact ih h1
  · exact RelE.pure ⟨h1, rfl⟩

theorem lsLoop_sim (hW : WRel u.toSFUser u'.toSFUser W) (x0 d lb ub : Vec α) :
    ∀ (fuel : Nat) {l l' : LS α δ}, LRel W l l' →
      RelE (fun p q => LRel W p.1 q.1 ∧ p.2 = q.2) (lsLoop u o x0 d lb ub fuel l)
        (lsLoop u' o x0 d lb ub fuel l') := by
  intro fuel
  induction fuel with
  | zero => exact fun h => RelE.pure ⟨h, rfl⟩
  | succ n ih =>
    rintro l l' ⟨sfb, ol, rfl, hw⟩
    exact lsLoop_succ_sim x0 d lb ub n ih (lsStep_sim x0 d lb ub l sfb ol (hW.fg _ hw) fun _ => hw)

variable [Sub α] [Div α] [Neg α] [OfNat α 1] [FloatLike α]

theorem lineSearch_cfg {c c' : Cfg α} (hc : LoopCfg c c') (u : User α ε) (o : Oracles α δ)
    (x0 : Vec α) (f0 : α)
    (g0 d : Vec α) (nit : Nat) (sf : SF α) (maxIter : Nat) (olog : List (OReq α)) :
    lineSearch u o c' x0 f0 g0 d nit sf maxIter olog =
      lineSearch u o c x0 f0 g0 d nit sf maxIter olog := by
  rw [hc]
  rfl

theorem lsPost_sim {l l' : LS α δ} (e : Bool) (h : LRel W l l') :
    RelE (ε := ε) (fun p q => W p.1 q.1 ∧ p.2.1 = q.2.1) (lsPost (l, e)) (lsPost (l', e)) := by
  obtain ⟨sfb, ol, rfl, hw⟩ := h
  unfold lsPost
  exact rel_ite (fun _ => RelE.pure ⟨hw, rfl⟩) fun _ =>
    rel_ite (fun _ => RelE.pure ⟨hw, rfl⟩) fun _ => RelE.pure ⟨hw, rfl⟩

theorem lineSearch_sim (hW : WRel u.toSFUser u'.toSFUser W) {c c' : Cfg α} (hc : LoopCfg c c')
    (x0 : Vec α) (f0 : α)
    (g0 d : Vec α) (nit : Nat) {sf sf' : SF α} (h : W sf sf') (maxIter : Nat)
    (olog olog' : List (OReq α)) :
    RelE (fun p q => W p.1 q.1 ∧ p.2.1 = q.2.1) (lineSearch u o c x0 f0 g0 d nit sf maxIter olog)
      (lineSearch u' o c' x0 f0 g0 d nit sf' maxIter olog') := by
  rw [hc, lineSearch_eq, lineSearch_eq]
  exact RelE.bind_fst (lsLoop_sim hW x0 d c.lb c.ub maxIter ⟨sf', olog', rfl, h⟩) fun _ _ p2 h1 =>
    lsPost_sim p2 h1

/-- `I` reads the memory and the target only -/
def Frame (I : St α → Prop) : Prop :=
  ∀ {s t : St α}, I s → t.X = s.X → t.G = s.G → t.mats = s.mats → t.ftarget = s.ftarget → I t

/-- what an instance of the walk supplies: `afterEval` and `accept` are the only places where the two runs
can take different code -/
structure Hooks (u u' : User α ε) (c c' : Cfg α) (W : SF α → SF α → Prop)
    (I : St α → Prop) : Prop where
  wrel : WRel u.toSFUser u'.toSFUser W
  cfg : LoopCfg c c'
  frame : Frame I
  fail : ∀ {s : St α}, I s → I (iterFail s).1
  afterEval : ∀ {a b : St α} (f0 : α), StRel W a b → I a →
    RelE (fun p q => (StRel W p.1 q.1 ∧ I p.1) ∧ p.2 = q.2) (afterEval u c a f0)
      (afterEval u' c' b f0)
  accept : ∀ {a b : St α}, StRel W a b → I a →
    RelE (fun p q => StRel W p q ∧ I p) (doCallback u c (memStep c a))
      (doCallback u' c' (memStep c' b))

variable {c c' : Cfg α} {I : St α → Prop}

theorem iterStep_sim (H : Hooks u u' c c' W I) {a b : St α} (d : Vec α) (stp f0Old : α)
    (h : StRel W a b) (hi : I a) :
    RelE (fun p q => (StRel W p.1 q.1 ∧ I p.1) ∧ p.2 = q.2) (iterStep u c a d stp f0Old)
      (iterStep u' c' b d stp f0Old) := by
  obtain ⟨sfb, cbs, ol, rfl, hw⟩ := h
  unfold iterStep
  dsimp only
  rw [H.cfg.lb, H.cfg.ub]
  refine RelE.bind_fst (H.wrel.fg _ hw) fun a1 b1 a2 h1 => ?_
  dsimp only
  refine RelE.bind_fst (R := fun p q => StRel W p q ∧ I p)
    (H.afterEval f0Old ⟨b1, cbs, ol, rfl, h1⟩ (H.frame hi rfl rfl rfl rfl)) fun r1 r1' r2 hr => ?_
  dsimp only
  split
  · exact RelE.pure ⟨hr, rfl⟩
  · refine RelE.bind (H.accept hr.1 hr.2) ?_
    rintro w w' ⟨⟨sfw, cbw, olw, rfl, hsw⟩, hiw⟩
    exact RelE.pure ⟨⟨⟨sfw, cbw, olw, rfl, hsw⟩, H.frame hiw rfl rfl rfl rfl⟩, rfl⟩

theorem iterBody_sim_of (H : Hooks u u' c c' W I) (a : St α) (sfb : SF α) (cbs : List (Result α))
    (ol : List (OReq α))
    (hi : I a)
    (hls : RelE (fun p q => W p.1 q.1 ∧ p.2.1 = q.2.1)
      (lineSearch u o c a.x a.f a.g (vsub (o.xbar a.x a.g a.mats) a.x) a.nit a.sf
        (min c.maxls (c.maxfun - a.sf.nfev)) (a.olog ++ [OReq.xbar a.x a.g a.mats]))
      (lineSearch u' o c' a.x a.f a.g (vsub (o.xbar a.x a.g a.mats) a.x) a.nit sfb
        (min c'.maxls (c'.maxfun - sfb.nfev)) (ol ++ [OReq.xbar a.x a.g a.mats]))) :
    RelE (fun p q => (StRel W p.1 q.1 ∧ I p.1) ∧ p.2 = q.2) (iterBody u o c a)
      (iterBody u' o c' { a with sf := sfb, cbStates := cbs, olog := ol }) := by
  unfold iterBody
  dsimp only
  refine RelE.bind hls ?_
  rintro ⟨p1, p2, p3⟩ ⟨q1, q2, q3⟩ ⟨h1, h2⟩
  dsimp only at h1 h2
  subst h2
  dsimp only
  cases p2 with
  | none =>
    have hf := iterFail_sim (⟨q1, cbs, q3, rfl, h1⟩ :
      StRel W { a with sf := p1, olog := p3 } { a with sf := q1, cbStates := cbs, olog := q3 })
    exact RelE.pure ⟨⟨hf.1, H.fail (H.frame hi rfl rfl rfl rfl)⟩, hf.2⟩
  | some stp => exact iterStep_sim H _ stp a.f ⟨q1, cbs, q3, rfl, h1⟩ (H.frame hi rfl rfl rfl rfl)

theorem iterBody_sim (H : Hooks u u' c c' W I) {a b : St α} (h : StRel W a b) (hi : I a) :
    RelE (fun p q => (StRel W p.1 q.1 ∧ I p.1) ∧ p.2 = q.2) (iterBody u o c a)
      (iterBody u' o c' b) := by
  obtain ⟨sfb, cbs, ol, rfl, hw⟩ := h
  refine iterBody_sim_of H a sfb cbs ol hi ?_
  rw [H.cfg.maxls, H.cfg.maxfun, ← H.wrel.nfev hw]
  exact lineSearch_sim H.wrel H.cfg _ _ _ _ _ hw _ _ _

theorem guard_sim (H : Hooks u u' c c' W I) {a b : St α} (h : StRel W a b) : guard c a =
    guard c' b := by
  obtain ⟨sfb, cbs, ol, rfl, hw⟩ := h
  rw [H.cfg]
  unfold guard
  dsimp only
  rw [← H.wrel.nfev hw]

theorem mainLoop_sim (H : Hooks u u' c c' W I) :
    ∀ (fuel : Nat) {a b : St α}, StRel W a b → I a →
      RelE (fun p q => StRel W p q ∧ I p) (mainLoop u o c fuel a) (mainLoop u' o c' fuel b) := by
  intro fuel
  induction fuel with
  | zero => exact fun h hi => RelE.pure ⟨h, hi⟩
  | succ n ih =>
    intro a b h hi
    simp only [mainLoop]
    rw [guard_sim H h]
    split
    · refine RelE.bind_fst (R := fun p q => StRel W p q ∧ I p)
        (iterBody_sim H h hi) fun p1 q1 p2 h1 => ?_
      cases p2 with
      | brk => exact RelE.pure h1
      | next => exact ih h1.1 h1.2
    · exact RelE.pure ⟨h, hi⟩

theorem classify_sim (hc : LoopCfg c c') (hn : ∀ {a b : SF α}, W a b → a.nfev = b.nfev) {a b : St α}
    (h : StRel W a b) : StRel W (classify c a) (classify c' b) := by
  obtain ⟨sfb, cbs, ol, rfl, hw⟩ := h
  rw [hc]
  unfold classify
  dsimp only
  rw [← hn hw]
  exact rel_ite (fun _ => ⟨sfb, cbs, ol, rfl, hw⟩) fun _ =>
    rel_ite (fun _ => ⟨sfb, cbs, ol, rfl, hw⟩) fun _ =>
    rel_ite (fun _ => ⟨sfb, cbs, ol, rfl, hw⟩) fun _ => ⟨sfb, cbs, ol, rfl, hw⟩

/-- `ht`: the target is tested on `f / scale`, and `W` need not make the two scales equal -/
theorem stopTests_sim (hc : LoopCfg c c') (hF : Frame I) {a b : St α} (f0Old : α) (h : StRel W a b)
    (hi : I a)
    (ht : ∀ f, targetReached (f / a.sf.scale) a.ftarget =
      targetReached (f / b.sf.scale) a.ftarget) :
    (StRel W (stopTests c a f0Old).1 (stopTests c' b f0Old).1 ∧ I (stopTests c a f0Old).1) ∧
      (stopTests c a f0Old).2 = (stopTests c' b f0Old).2 := by
  obtain ⟨sfb, cbs, ol, rfl, hw⟩ := h
  have ht' : targetReached (a.f / a.sf.scale) a.ftarget =
    targetReached (a.f / sfb.scale) a.ftarget := ht a.f
  rw [hc]
  unfold stopTests
  dsimp only
  rw [ht']
  let R (p q : St α × Bool) : Prop := (StRel W p.1 q.1 ∧ I p.1) ∧ p.2 = q.2
  exact rel_ite (R := R) (fun _ => ⟨⟨⟨sfb, cbs, ol, rfl, hw⟩, hF hi rfl rfl rfl rfl⟩, rfl⟩) fun _ =>
    rel_ite (R := R) (fun _ => ⟨⟨⟨sfb, cbs, ol, rfl, hw⟩, hF hi rfl rfl rfl rfl⟩, rfl⟩) fun _ =>
      ⟨⟨⟨sfb, cbs, ol, rfl, hw⟩, hi⟩, rfl⟩

theorem doCallback_same (hW : WRel u.toSFUser u'.toSFUser W) (hF : Frame I)
    (hcb : c'.hasCallback = c.hasCallback)
    (hu : u'.callback = u.callback) {a b : St α} (h : StRel W a b) (hi : I a) :
    RelE (fun p q => StRel W p q ∧ I p) (doCallback u c a) (doCallback u' c' b) := by
  have hres := StRel.result hW.nfev hW.ngev h
  obtain ⟨sfb, cbs, ol, rfl, hw⟩ := h
  unfold doCallback
  dsimp only
  rw [← hres, hcb, hu]
  refine rel_ite (fun _ => RelE.bind (R := Eq) (RelE.refl _) ?_) fun _ =>
    RelE.pure ⟨⟨sfb, cbs, ol, rfl, hw⟩, hi⟩
  rintro stopNow _ rfl
  exact RelE.pure (rel_ite (R := fun p q => StRel W p q ∧ I p)
    (fun _ => ⟨⟨_, _, _, rfl, hW.log _ hw⟩, hF hi rfl rfl rfl rfl⟩) fun _ =>
    ⟨⟨_, _, _, rfl, hW.log _ hw⟩, hF hi rfl rfl rfl rfl⟩)

/-- `hIU`: an update function may rewrite the history: an invariant of the memory survives only
without one -/
theorem afterEval_same (hW : WRel u.toSFUser u'.toSFUser W) (hc : LoopCfg c c') (hF : Frame I)
    (hU : c'.hasUpdate = c.hasUpdate) (hu : u'.update = u.update)
    (hIU : c.hasUpdate = true → ∀ s, I s)
    {a b : St α} (f0Old : α) (h : StRel W a b) (hi : I a)
    (ht : ∀ f, targetReached (f / a.sf.scale) a.ftarget =
      targetReached (f / b.sf.scale) a.ftarget) :
    RelE (fun p q => (StRel W p.1 q.1 ∧ I p.1) ∧ p.2 = q.2) (afterEval u c a f0Old)
      (afterEval u' c' b f0Old) := by
  obtain ⟨sfb, cbs, ol, rfl, hw⟩ := h
  unfold afterEval
  dsimp only
  rw [hU, hu, hc.epsSY]
  split
  · rename_i hup
    refine RelE.bind (R := Eq) (RelE.refl _) ?_
    rintro r _ rfl
    exact RelE.pure (stopTests_sim hc hF r.f0Old ⟨_, cbs, ol, rfl, hW.log _ hw⟩ (hIU hup _) ht)
  · exact RelE.pure (stopTests_sim hc hF f0Old ⟨sfb, cbs, ol, rfl, hw⟩ hi ht)

theorem memStep_same (hc : LoopCfg c c') (hU : c'.hasUpdate = c.hasUpdate) {a b : St α}
    (h : StRel W a b) :
    StRel W (memStep c a) (memStep c' b) := by
  obtain ⟨sfb, cbs, ol, rfl, hw⟩ := h
  unfold memStep
  rw [hc.maxcor, hc.epsSY, hU]
  exact ⟨sfb, cbs, ol, rfl, hw⟩

theorem result_sim (hc : LoopCfg c c') (hn : ∀ {a b : SF α}, W a b → a.nfev = b.nfev)
    (hg : ∀ {a b : SF α}, W a b → a.ngev = b.ngev) {a b : St α} (h : StRel W a b) :
    (classify c a).result = (classify c' b).result :=
  StRel.result hn hg (classify_sim hc hn h)

theorem minimize_sim (H : Hooks u u' c c' W I) {R : Init α → Init α → Prop}
    (hinit : RelE R (initEval u c) (initEval u' c'))
    (hearly : ∀ i j, R i j →
      targetReached (i.f0 / i.sf.scale) i.ftarget = targetReached (j.f0 / j.sf.scale) j.ftarget ∧
      (targetReached (i.f0 / i.sf.scale) i.ftarget = true → (earlyResult c i).1 =
        (earlyResult c' j).1))
    (hprep : ∀ i j, R i j → RelE (fun a b => StRel W a b ∧ I a) (prepare u c i) (prepare u' c' j)) :
    RelE (fun p q => p.1 = q.1) (minimize u o c) (minimize u' o c') := by
  unfold minimize
  refine RelE.bind hinit fun i j hij => ?_
  dsimp only
  rw [← (hearly i j hij).1]
  refine rel_ite (fun ht => RelE.pure ((hearly i j hij).2 ht)) fun _ => ?_
  refine RelE.bind (hprep i j hij) ?_
  rintro s0 t0 ⟨h0, hi0⟩
  have hn : t0.nit = s0.nit := by
    obtain ⟨_, _, _, rfl, -⟩ := h0
    rfl
  rw [H.cfg.maxiter, hn]
  refine RelE.bind (mainLoop_sim H _ h0 hi0) ?_
  rintro s1 t1 ⟨h1, -⟩
  exact RelE.pure (result_sim H.cfg H.wrel.nfev H.wrel.ngev h1)

end Lbfgsb
