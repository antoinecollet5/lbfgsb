/-
  C08: the generalized Cauchy point is the FIRST LOCAL MINIMISER of the quadratic model along the
  projected path (ordered field; exact product with a symmetric middle matrix; positive-definite
  model; floor on `f''` inactive).
-/
import LbfgsbVerif.Proofs.CauchyDeriv

namespace Lbfgsb
open Matrix C01
variable {K : Type} [Field K] [LinearOrder K] [IsStrictOrderedRing K]

theorem parab_sub (a b p q : K) :
    q * a + (1 / 2) * q * q * b - (p * a + (1 / 2) * p * p * b) = (q - p) * ((a + q * b) - (q - p) * b / 2) := by
  ring

theorem parab_dec (a b δ p q : K) (hb : 0 < b) (hend : a + δ * b ≤ 0) (hpq : p < q) (hq : q ≤ δ) :
    q * a + (1 / 2) * q * q * b < p * a + (1 / 2) * p * p * b := by
  -- the slope at `q` is at most the slope at `δ`, and half the change of slope since `p` is positive
  have hslope : a + q * b ≤ 0 := (add_le_add_right (mul_le_mul_of_nonneg_right hq hb.le) a).trans hend
  have hpos : 0 < (q - p) * b / 2 := half_pos (mul_pos (sub_pos.2 hpq) hb)
  exact sub_neg.1 ((parab_sub a b p q).trans_lt
    (mul_neg_of_pos_of_neg (sub_pos.2 hpq) (sub_neg.2 (hslope.trans_lt hpos))))

theorem parab_min (a b m q : K) (hb : 0 ≤ b) (hm : a + m * b ≥ 0) (hmq : m ≤ q) :
    m * a + (1 / 2) * m * m * b ≤ q * a + (1 / 2) * q * q * b := by
  have hhalf : (m - q) * b / 2 ≤ 0 :=
    div_nonpos_of_nonpos_of_nonneg (mul_nonpos_of_nonpos_of_nonneg (sub_nonpos.2 hmq) hb) two_pos.le
  exact sub_nonpos.1 ((parab_sub a b q m).trans_le
    (mul_nonpos_of_nonpos_of_nonneg (sub_nonpos.2 hmq) (sub_nonneg.2 (hhalf.trans hm))))

/-- `m = max(−a/b, 0)`: the slope of `τ a + ½ τ² b` at `m` is `≥ 0`, and `≤ 0` unless `m = 0` -/
theorem vertex_spec (a b dtm m : K) (hb : 0 < b) (hdt : dtm = -a / b) (hm : m = if dtm < 0 then 0 else dtm) :
    0 ≤ a + m * b ∧ (0 < m → a + m * b ≤ 0) := by
  have hmul : dtm * b = -a := by rw [hdt, div_mul_cancel₀ _ hb.ne']
  by_cases hneg : dtm < 0
  · have ha : 0 < a := neg_neg_iff_pos.1 (hmul ▸ mul_neg_of_neg_of_pos hneg hb)
    rw [hm, if_pos hneg, zero_mul, add_zero]
    exact ⟨ha.le, fun h => absurd h (lt_irrefl 0)⟩
  · rw [hm, if_neg hneg, hmul, add_neg_cancel]
    exact ⟨le_rfl, fun _ => le_rfl⟩

/-- the model value along the projected path -/
def phi (i : CauchyIn K) (n k : Nat) (Mm : Matrix (Fin k) (Fin k) K) (τ : K) : K :=
  qmodel (vec n i.g) (bmat i.theta (wmat n k i.W) Mm) (vec n (pathAt i τ) - vec n i.x)

/-- at `τ` the path is on the current segment of state `s` -/
def SegAt (i : CauchyIn K) (n : Nat) (s : CauchySt K) (τ : K) : Prop :=
  vec n (pathAt i τ) - vec n i.x = zOf i n s + (τ - s.tOld) • vec n s.d

/-- the hypotheses of the first-local-minimiser theorem. `f2org` is a parameter (in the end always `f2orgOf i`): the lemmas about one
pass hold for whatever `f2org` the loop is run with. `floor` ranges over the directions the search can meet — `d₀` with some components
zeroed, as pinning zeroes them — because after every breakpoint the source replaces `f''` by `max(f'', eps·f''₀)`, and `f''` is the
curvature along the new direction only if that floor stays below it -/
structure MinCtx (i : CauchyIn K) (n k : Nat) (Mm : Matrix (Fin k) (Fin k) K) (f2org : K) : Prop where
  q : QCtx i n k Mm
  box : InBoxF i.lb i.ub i.x
  pd : ∀ a : Fin n → K, a ≠ 0 → 0 < a ⬝ᵥ (bmat i.theta (wmat n k i.W) Mm *ᵥ a)
  floor : ∀ dd : Fin n → K, dd ≠ 0 →
    (∀ r, dd r = 0 ∨ dd r = vec n (cauchyD0 (breakpoints i.x i.g i.lb i.ub) i.g) r) →
    i.epsFsec * f2org ≤ dd ⬝ᵥ (bmat i.theta (wmat n k i.W) Mm *ᵥ dd)

theorem MinCtx.hgx {i : CauchyIn K} {n k : Nat} {Mm : Matrix (Fin k) (Fin k) K} {f2org : K}
    (hc : MinCtx i n k Mm f2org) : i.g.length = i.x.length :=
  hc.q.hg.trans hc.q.hx.symm

theorem MinCtx.psd {i : CauchyIn K} {n k : Nat} {Mm : Matrix (Fin k) (Fin k) K} {f2org : K}
    (hc : MinCtx i n k Mm f2org) (a : Fin n → K) : 0 ≤ a ⬝ᵥ (bmat i.theta (wmat n k i.W) Mm *ᵥ a) := by
  by_cases ha : a = 0
  · rw [ha, zero_dotProduct]
  · exact (hc.pd a ha).le

theorem phi_seg (i : CauchyIn K) (n k : Nat) (Mm : Matrix (Fin k) (Fin k) K) (hsym : Mmᵀ = Mm)
    (s : CauchySt K) (hd : DInv i n k Mm s) (τ : K) (hseg : SegAt i n s τ) :
    phi i n k Mm τ = qmodel (vec n i.g) (bmat i.theta (wmat n k i.W) Mm) (zOf i n s) + ((τ - s.tOld) * s.f1 +
      (1 / 2) * (τ - s.tOld) * (τ - s.tOld) *
        (vec n s.d ⬝ᵥ (bmat i.theta (wmat n k i.W) Mm *ᵥ vec n s.d))) := by
  rw [phi, hseg, qmodel_line _ _ (bmat_symm _ _ _ hsym), ← hd.f1_eq, add_assoc]

/-- strict decrease of `phi` on `[0, T]`: the middle clause of `C08.FirstLocalMin`, which `CInv` carries for `T = t_old` -/
def Dec (i : CauchyIn K) (n k : Nat) (Mm : Matrix (Fin k) (Fin k) K) (T : K) : Prop :=
  ∀ p q, 0 ≤ p → p < q → q ≤ T → phi i n k Mm q < phi i n k Mm p

theorem Dec.concat {i : CauchyIn K} {n k : Nat} {Mm : Matrix (Fin k) (Fin k) K} {T0 T : K}
    (h0 : Dec i n k Mm T0)
    (h1 : ∀ p q, T0 ≤ p → p < q → q ≤ T → phi i n k Mm q < phi i n k Mm p) : Dec i n k Mm T := by
  intro p q hp hpq hq
  by_cases hq0 : q ≤ T0
  · exact h0 p q hp hpq hq0
  · by_cases hp0 : T0 ≤ p
    · exact h1 p q hp0 hpq hq
    · have a := h1 T0 q (le_refl _) (not_le.1 hq0) hq
      have b := h0 p T0 hp (not_le.1 hp0) (le_refl _)
      exact lt_trans a b

theorem seg_dec (i : CauchyIn K) (n k : Nat) (Mm : Matrix (Fin k) (Fin k) K) (hsym : Mmᵀ = Mm)
    (s : CauchySt K) (hd : DInv i n k Mm s) (T : K)
    (hT : 0 < T - s.tOld → 0 < vec n s.d ⬝ᵥ (bmat i.theta (wmat n k i.W) Mm *ᵥ vec n s.d) ∧
      s.f1 + (T - s.tOld) * (vec n s.d ⬝ᵥ (bmat i.theta (wmat n k i.W) Mm *ᵥ vec n s.d)) ≤ 0)
    (hseg : ∀ τ, s.tOld ≤ τ → τ ≤ T → SegAt i n s τ) :
    ∀ p q, s.tOld ≤ p → p < q → q ≤ T → phi i n k Mm q < phi i n k Mm p := by
  intro p q hp hpq hq
  obtain ⟨hpos, hend⟩ := hT (sub_pos.2 (hp.trans_lt (hpq.trans_le hq)))
  rw [phi_seg i n k Mm hsym s hd q (hseg q (hp.trans hpq.le) hq),
    phi_seg i n k Mm hsym s hd p (hseg p hp (hpq.le.trans hq))]
  exact add_lt_add_right (parab_dec s.f1 _ (T - s.tOld) (p - s.tOld) (q - s.tOld) hpos hend
    (sub_lt_sub_right hpq _) (sub_le_sub_right hq _)) _

/-- between the last breakpoint passed and the next one the projected path is the straight line `x_cp + t·d`: the vector form
of `seg_coord` (Proofs/CauchyCoord.lean) -/
theorem seg_vec (i : CauchyIn K) (n : Nat) (hn : i.x.length = n) (hx : InBoxF i.lb i.ub i.x)
    (hg : i.g.length = i.x.length) (s : CauchySt K) (P : List Nat)
    (hi : PathInv i (breakpoints i.x i.g i.lb i.ub) (cauchyD0 (breakpoints i.x i.g i.lb i.ub) i.g) s P)
    (τ : K) (hτ : s.tOld ≤ τ)
    (hnext : ∀ j, j < i.x.length → j ∉ P → ∀ v, (breakpoints i.x i.g i.lb i.ub).getD j none = some v →
      v ≠ 0 → τ ≤ v) :
    vec n (pathAt i τ) - vec n i.x = zOf i n s + (τ - s.tOld) • vec n s.d := by
  funext r
  have hj : (r : Nat) < i.x.length := hn ▸ r.2
  obtain ⟨hlj, huj⟩ := inBoxF_getD hx r hj
  have hb := getD_breakpoints_of_box i hx hg r hj
  have hc := hi.coordAt hx hg r hj
  -- a component that still moves belongs to a variable not yet pinned, with a non-zero breakpoint
  have hle : ∀ v, bp1 (i.x.getD r 0) (i.g.getD r 0) (i.lb.getD r 0) (i.ub.getD r 0) = some v →
      s.d.getD r 0 ≠ 0 → τ ≤ v := by
    intro v hv hd
    have hP : (r : Nat) ∉ P := fun hP => hd (hi.d_pinned hP)
    exact hnext r hj hP v (hb ▸ hv) fun hv0 => hd (hc.dir_zero (hv0 ▸ hv))
  have key := seg_coord _ _ _ _ τ hlj huj (hi.tOld_nonneg.trans hτ) _ _ (CoordAt.mono hc hτ) hle
  simp only [Pi.sub_apply, Pi.add_apply, Pi.smul_apply, smul_eq_mul, zOf, vec]
  rw [getD_pathAt i hx hg τ r hj, key]
  ring

/-- the invariant of the breakpoint loop; `rest` = the breakpoints still to come -/
structure CInv (i : CauchyIn K) (n k : Nat) (Mm : Matrix (Fin k) (Fin k) K) (s : CauchySt K)
    (P rest : List Nat) : Prop where
  path : PathInv i (breakpoints i.x i.g i.lb i.ub) (cauchyD0 (breakpoints i.x i.g i.lb i.ub) i.g) s P
  der : DInv i n k Mm s
  dec : Dec i n k Mm s.tOld
  live : s.found = false →
    (∀ j, j < n → j ∉ P → bpPos ((breakpoints i.x i.g i.lb i.ub).getD j none) = true → j ∈ rest) ∧
    (∀ j ∈ rest, ∀ v, (breakpoints i.x i.g i.lb i.ub).getD j none = some v → s.tOld ≤ v)
  done : s.found = true →
    ∃ δ, 0 < δ ∧ s.dtm < δ ∧ ∀ τ, s.tOld ≤ τ → τ ≤ s.tOld + δ → SegAt i n s τ
  /-- a non-zero initial direction means the search leaves `t = 0` -/
  pos : vec n (cauchyD0 (breakpoints i.x i.g i.lb i.ub) i.g) ≠ 0 →
    0 < s.tOld ∨ (0 < s.dtm ∧ vec n s.d ≠ 0)

theorem CInv.seg {i : CauchyIn K} {n k : Nat} {Mm : Matrix (Fin k) (Fin k) K} {f2org : K} {s : CauchySt K}
    {P rest : List Nat} (h : CInv i n k Mm s P rest) (hc : MinCtx i n k Mm f2org) (hf : s.found = false) (T : K)
    (hT : ∀ j ∈ rest, ∀ v, (breakpoints i.x i.g i.lb i.ub).getD j none = some v → T ≤ v)
    (τ : K) (h1 : s.tOld ≤ τ) (h2 : τ ≤ T) : SegAt i n s τ := by
  refine seg_vec i n hc.q.hx hc.box hc.hgx s P h.path τ h1 fun j hj hjP v hv hv0 => h2.trans (hT j ?_ v hv)
  -- an unpinned variable with a non-zero, hence positive, breakpoint is still to come
  obtain ⟨hlj, huj⟩ := inBoxF_getD hc.box j hj
  have hvn : 0 ≤ v := bp1_nonneg hlj huj ((getD_breakpoints_of_box i hc.box hc.hgx j hj).symm.trans hv)
  exact (h.live hf).1 j (hc.q.hx ▸ hj) hjP (hv ▸ decide_eq_true (lt_of_le_of_ne hvn (Ne.symm hv0)))

/-- by the three outcomes of `cauchyStep_cases`; a passed breakpoint extends the strict decrease over the segment
just left, whose end still has a non-positive slope (`hns`) -/
theorem step_cinv (i : CauchyIn K) (n k : Nat) (Mm : Matrix (Fin k) (Fin k) K) (f2org : K)
    (hc : MinCtx i n k Mm f2org) (s : CauchySt K) (P : List Nat) (ib : Nat) (rest : List Nat)
    (h : CInv i n k Mm s P (ib :: rest)) (hib : ib < n) (hnp : ib ∉ P)
    (hpos : bpPos ((breakpoints i.x i.g i.lb i.ub).getD ib none) = true)
    (hsort : ∀ j ∈ rest, bpLe ((breakpoints i.x i.g i.lb i.ub).getD ib none)
      ((breakpoints i.x i.g i.lb i.ub).getD j none) = true) :
    ∃ P', (P' = P ∨ P' = ib :: P) ∧
      CInv i n k Mm (cauchyStep i (breakpoints i.x i.g i.lb i.ub) f2org s ib) P' rest := by
  have hn := hc.q.hx
  have hg := hc.hgx
  have hibx : ib < i.x.length := hn ▸ hib
  have hnext : ∀ tcur, (breakpoints i.x i.g i.lb i.ub).getD ib none = some tcur → ∀ j ∈ ib :: rest, ∀ v,
      (breakpoints i.x i.g i.lb i.ub).getD j none = some v → tcur ≤ v := fun tcur htc =>
    C08.le_of_le_head _ ib rest hsort tcur fun tc h => (Option.some.inj (htc.symm.trans h)).le
  rcases cauchyStep_cases i (breakpoints i.x i.g i.lb i.ub) f2org s ib with ⟨hf, he⟩ | ⟨hf, he, why⟩ |
    ⟨tcur, htc, hf, hns, he⟩
  · rw [he]
    exact ⟨P, .inl rfl, { h with live := fun h' => absurd (hf.symm.trans h') Bool.noConfusion }⟩
  · -- the search stops in this segment: the segment formula holds up to the next breakpoint, or for ever
    rw [he]
    refine ⟨P, .inl rfl,
      { h with
        path := h.path.set_found true
        der := h.der.set_found true
        live := fun h' => Bool.noConfusion h'
        done := fun _ => ?_ }⟩
    rcases why with hnone | ⟨tcur, htc, hlt, hdt⟩
    · exact ⟨max s.dtm 0 + 1, lt_of_le_of_lt (le_max_right _ _) (lt_add_one _),
        lt_of_le_of_lt (le_max_left _ _) (lt_add_one _), fun τ h1 _ =>
        h.seg hc hf τ (C08.le_of_le_head _ ib rest hsort τ fun tc h => nomatch hnone.symm.trans h) τ h1 le_rfl⟩
    · exact ⟨tcur - s.tOld, hdt, hlt, fun τ h1 h2 =>
        h.seg hc hf tcur (hnext tcur htc) τ h1 (h2.trans_eq (add_sub_cancel _ _))⟩
  · rw [he]
    obtain ⟨cover, hge⟩ := h.live hf
    have htcur : 0 < tcur := of_decide_eq_true (htc ▸ hpos :)
    have hle : s.tOld ≤ tcur := hge ib (List.mem_cons_self ..) tcur htc
    obtain ⟨hgne, hdd, hbp⟩ := bp_some_facts i hc.box hg ib hibx tcur htc htcur
    obtain ⟨hfx, hfd⟩ := h.path.free ib hibx hnp
    have hdb : s.d.getD ib 0 = -(i.g.getD ib 0) := hfd.trans hdd
    have hpath' : PathInv i _ _ (cauchyAdvance i f2org s ib tcur) (ib :: P) :=
      advance_pathinv i _ _ f2org s P ib tcur h.path hibx hnp htc htcur hle hdd hgne
    have hDne : vec n s.d ≠ 0 := vec_ne_zero_of_getD _ ib hib (hdb ▸ neg_ne_zero.2 hgne)
    have hf2pos := hc.pd _ hDne
    have hder' : DInv i n k Mm (cauchyAdvance i f2org s ib tcur) := by
      refine advance_dinv i n k Mm hc.q f2org s ib tcur hib (h.path.len_x.trans hn) (h.path.len_d.trans hn)
        hfx hdb hgne hbp (fun hne => hc.floor _ hne fun r => ?_) h.der
      -- the new direction is the initial one with the pinned components zeroed
      by_cases hr : (r : Nat) ∈ ib :: P
      · exact .inl (hpath'.d_pinned hr)
      · exact .inr (hpath'.free r (hn ▸ r.2) hr).2
    have hdec' : Dec i n k Mm tcur := by
      refine Dec.concat h.dec (seg_dec i n k Mm hc.q.hsym s h.der tcur (fun hdt => ⟨hf2pos, ?_⟩)
        (h.seg hc hf tcur (hnext tcur htc)))
      -- the stop test failed on a segment of positive length: `t_cur − t_old ≤ Δt_min = −f'/f''`
      have hge' : tcur - s.tOld ≤ s.dtm := not_lt.1 (hns hdt)
      rw [h.der.dtm_eq, h.der.f2_eq hDne, le_div_iff₀ hf2pos] at hge'
      exact le_neg_iff_add_nonpos_left.1 hge'
    refine ⟨ib :: P, .inr rfl,
      { path := hpath'
        der := hder'
        dec := hdec'
        live := fun _ => ⟨fun j hj hjn hjpos => ?_, fun j hj v hv => ?_⟩
        done := fun h' => absurd (hf.symm.trans h') Bool.noConfusion
        pos := fun _ => .inl htcur }⟩
    · exact (List.mem_cons.1 (cover j hj (fun hh => hjn (List.mem_cons_of_mem _ hh)) hjpos)).resolve_left
        fun hh => hjn (hh ▸ List.mem_cons_self ..)
    · exact hnext tcur htc j (List.mem_cons_of_mem _ hj) v hv

theorem zOf_init (i : CauchyIn K) (n : Nat) : zOf i n (cauchyInit i) = 0 := by
  funext r
  show i.x.getD r 0 + 0 * _ - i.x.getD r 0 = 0
  rw [zero_mul, add_zero, sub_self]

theorem init_gd {i : CauchyIn K} {n k : Nat} {Mm : Matrix (Fin k) (Fin k) K} {f2org : K} (hc : MinCtx i n k Mm f2org) :
    vec n i.g ⬝ᵥ vec n (cauchyInit i).d = -(vec n (cauchyInit i).d ⬝ᵥ vec n (cauchyInit i).d) := by
  simp only [dotProduct, ← Finset.sum_neg_distrib]
  refine Finset.sum_congr rfl fun r _ => ?_
  rw [show vec n (cauchyInit i).d r = _ from getD_cauchyD0_of_box i hc.box hc.hgx r (hc.q.hx ▸ r.2)]
  exact d01_descent _ _

theorem init_dinv {i : CauchyIn K} {n k : Nat} {Mm : Matrix (Fin k) (Fin k) K} {f2org : K} (hc : MinCtx i n k Mm f2org)
    (hk : kOf i = k) : DInv i n k Mm (cauchyInit i) := by
  have hq := hc.q
  have hd0l : (cauchyInit i).d.length = n := (cauchyD0_length_of_box i hc.box hc.hgx).trans hq.hx
  have hz := zOf_init i n
  have hp : vec k (cauchyInit i).p = (wmat n k i.W)ᵀ *ᵥ vec n (cauchyInit i).d := by
    rw [cauchyInit_p, hk]
    exact vec_wtv n k i.W _ hq.hW hd0l
  have hlp : (cauchyInit i).p.length = k := by rw [cauchyInit_p, wtv_length, hk]
  have hgd := init_gd hc
  refine ⟨hlp, (List.length_map _).trans hlp, hp, ?_, ?_, ?_, rfl⟩
  · rw [hz, mulVec_zero]
    exact vec_zeros k _
  · rw [hz, mulVec_zero, dotProduct_zero, add_zero, hgd, cauchyInit_f1, dot_vec n _ _ hd0l hd0l]
  · intro _
    rw [cauchyInit_f2, ← one_mul (dot _ (i.mv _)), if_useFactor_sub_mv, one_mul, hq.dot_mv _ _ hlp hlp, hp, bmat_quad,
      cauchyInit_f1, dot_vec n _ _ hd0l hd0l]
    ring

theorem init_cinv (i : CauchyIn K) (n k : Nat) (Mm : Matrix (Fin k) (Fin k) K) (f2org : K)
    (hc : MinCtx i n k Mm f2org) (hk : kOf i = k) :
    CInv i n k Mm (cauchyInit i) [] (bpOrder (breakpoints i.x i.g i.lb i.ub)) := by
  have hbt := breakpoints_length_of_box i hc.box hc.hgx
  have hd := init_dinv hc hk
  refine
    { path := PathInv.init i hc.box hc.hgx _ rfl rfl rfl
      der := hd
      dec := fun p q hp hpq hq => absurd (hp.trans_lt hpq) (not_lt.2 hq)
      live := fun _ => ⟨fun j hj _ hpos => ?_, fun j hj v hv => ?_⟩
      done := fun h' => Bool.noConfusion h'
      pos := fun hne => .inr ⟨?_, hne⟩ }
  · exact (C08.order_positive _ j).2 ⟨(hbt.trans hc.q.hx).symm ▸ hj, hpos⟩
  · exact (C08.pos_of_mem_order hj hv).le
  · -- `dtm = −f'/f''` with `f' = g·d0 = −d0·d0 < 0` and `f'' = d0ᵀB d0 > 0`
    rw [hd.dtm_eq, hd.f2_eq hne, hd.f1_eq, zOf_init, mulVec_zero, dotProduct_zero, add_zero,
      init_gd hc, neg_neg]
    exact div_pos (dot_self_pos _ hne) (hc.pd _ hne)

theorem loop_cinv (i : CauchyIn K) (n k : Nat) (Mm : Matrix (Fin k) (Fin k) K)
    (hk : kOf i = k) (hc : MinCtx i n k Mm (f2orgOf i)) :
    ∃ P', CInv i n k Mm ((bpOrder (breakpoints i.x i.g i.lb i.ub)).foldl
      (cauchyStep i (breakpoints i.x i.g i.lb i.ub) (f2orgOf i)) (cauchyInit i)) P' [] := by
  refine foldl_order (cauchyStep i (breakpoints i.x i.g i.lb i.ub) (f2orgOf i)) _
    (fun ib => ib < n ∧ bpPos ((breakpoints i.x i.g i.lb i.ub).getD ib none) = true) (CInv i n k Mm)
    (fun s P ib rest h hq hnp _ hs => step_cinv i n k Mm (f2orgOf i) hc s P ib rest h hq.1 hnp hq.2 hs)
    _ _ [] (init_cinv i n k Mm (f2orgOf i) hc hk) (fun ib hib => ?_) (C08.order_nodup _) (C08.order_sorted _)
  obtain ⟨h1, h2⟩ := (C08.order_positive _ ib).1 hib
  rw [breakpoints_length_of_box i hc.box hc.hgx, hc.q.hx] at h1
  exact ⟨⟨h1, h2⟩, List.not_mem_nil⟩

/-- `C08.FirstLocalMin (phi i n k Mm) tF` with named fields (`C08.isFirstLocalMin_iff`); `finish_claims` is stated with it, the
proofs and the end results with the other form -/
structure IsFirstLocalMin (i : CauchyIn K) (n k : Nat) (Mm : Matrix (Fin k) (Fin k) K) (tF : K) : Prop where
  nonneg : 0 ≤ tF
  dec : ∀ p q, 0 ≤ p → p < q → q ≤ tF → phi i n k Mm q < phi i n k Mm p
  right_min : ∃ δ, 0 < δ ∧ ∀ τ, tF ≤ τ → τ ≤ tF + δ → phi i n k Mm tF ≤ phi i n k Mm τ

namespace C08

/-- `t` is the first local minimiser of `φ` on `[0, ∞)`: `φ` decreases strictly on `[0, t]`, and `φ t ≤ φ τ` on a right neighbourhood
of `t`. At most one `t` has the two properties (`firstLocalMin_unique`, Props/C08Unique) -/
def FirstLocalMin (φ : K → K) (t : K) : Prop :=
  0 ≤ t ∧ (∀ p q, 0 ≤ p → p < q → q ≤ t → φ q < φ p) ∧ ∃ δ, 0 < δ ∧ ∀ τ, t ≤ τ → τ ≤ t + δ → φ t ≤ φ τ

theorem isFirstLocalMin_iff (i : CauchyIn K) (n k : Nat) (Mm : Matrix (Fin k) (Fin k) K) (t : K) :
    IsFirstLocalMin i n k Mm t ↔ FirstLocalMin (phi i n k Mm) t :=
  ⟨fun h => ⟨h.nonneg, h.dec, h.right_min⟩, fun h => ⟨h.1, h.2.1, h.2.2⟩⟩

end C08

theorem CInv.dir_zero {i : CauchyIn K} {n k : Nat} {Mm : Matrix (Fin k) (Fin k) K} {f2org : K} {s : CauchySt K}
    {P : List Nat} (h : CInv i n k Mm s P []) (hc : MinCtx i n k Mm f2org) (hf : s.found = false) : vec n s.d = 0 := by
  funext r
  have hr : (r : Nat) < i.x.length := hc.q.hx ▸ r.2
  obtain ⟨hlj, huj⟩ := inBoxF_getD hc.box r hr
  by_cases hrP : (r : Nat) ∈ P
  · exact h.path.d_pinned hrP
  · -- an unpinned variable has no positive breakpoint: it is `0` (`none` counts as positive)
    have hnp := fun hp => List.not_mem_nil ((h.live hf).1 r r.2 hrP hp)
    rw [getD_breakpoints_of_box i hc.box hc.hgx r hr] at hnp
    cases hbr : bp1 (i.x.getD r 0) (i.g.getD r 0) (i.lb.getD r 0) (i.ub.getD r 0) with
    | none => exact absurd (hbr ▸ rfl) hnp
    | some v =>
      have hv : v = 0 := le_antisymm (not_lt.1 fun hv => hnp (hbr ▸ decide_eq_true hv)) (bp1_nonneg hlj huj hbr)
      exact (h.path.coordAt hc.box hc.hgx r hr).dir_zero (hv ▸ hbr)

theorem lastStep_of_zero (n : Nat) (s : CauchySt K) (hld : s.d.length = n) (hD : vec n s.d = 0) :
    lastStep s = 0 :=
  if_pos ((all_zero_iff n s.d hld).2 hD)

theorem lastStep_of_ne (n : Nat) (s : CauchySt K) (hld : s.d.length = n) (hD : vec n s.d ≠ 0) :
    lastStep s = if s.dtm < 0 then 0 else s.dtm :=
  if_neg fun hh => hD ((all_zero_iff n s.d hld).1 hh)

/-- the slope `f' + m f''` of the current parabola at the last step `m`. With every variable pinned `f' = f'' = m = 0`; otherwise this
is `vertex_spec` -/
theorem DInv.lastStep_slope {i : CauchyIn K} {n k : Nat} {Mm : Matrix (Fin k) (Fin k) K} {s : CauchySt K}
    (h : DInv i n k Mm s) (hld : s.d.length = n)
    (hpd : vec n s.d ≠ 0 → 0 < vec n s.d ⬝ᵥ (bmat i.theta (wmat n k i.W) Mm *ᵥ vec n s.d)) :
    0 ≤ vec n s.d ⬝ᵥ (bmat i.theta (wmat n k i.W) Mm *ᵥ vec n s.d) ∧
    0 ≤ s.f1 + lastStep s * (vec n s.d ⬝ᵥ (bmat i.theta (wmat n k i.W) Mm *ᵥ vec n s.d)) ∧
    (0 < lastStep s → 0 < vec n s.d ⬝ᵥ (bmat i.theta (wmat n k i.W) Mm *ᵥ vec n s.d) ∧
      s.f1 + lastStep s * (vec n s.d ⬝ᵥ (bmat i.theta (wmat n k i.W) Mm *ᵥ vec n s.d)) ≤ 0) := by
  by_cases hD : vec n s.d = 0
  · rw [lastStep_of_zero n s hld hD, h.f1_eq, hD]
    simp only [zero_dotProduct, dotProduct_zero, add_zero, zero_mul]
    exact ⟨le_rfl, le_rfl, fun h0 => absurd h0 (lt_irrefl 0)⟩
  · obtain ⟨hge, hle⟩ := vertex_spec s.f1 _ s.dtm (lastStep s) (hpd hD) (h.f2_eq hD ▸ h.dtm_eq) (lastStep_of_ne n s hld hD)
    exact ⟨(hpd hD).le, hge, fun hm => ⟨hpd hD, hle hm⟩⟩

/-- from the invariant of the final state: on a stretch beyond `t_old` longer than the last step `m` the model value is the parabola of
`phi_seg`, whose slope at `m` is as `DInv.lastStep_slope` says, so `t_old + m` is the first local minimiser; with it come the point and
the vector `c` the model returns -/
theorem finish_flm (i : CauchyIn K) (n k : Nat) (Mm : Matrix (Fin k) (Fin k) K) (f2org : K)
    (hc : MinCtx i n k Mm f2org) (s : CauchySt K) (P : List Nat) (h : CInv i n k Mm s P []) :
    C08.FirstLocalMin (phi i n k Mm) (s.tOld + lastStep s) ∧
    (cauchyFinish i s).1 = pathAt i (s.tOld + lastStep s) ∧
    (vec n (cauchyD0 (breakpoints i.x i.g i.lb i.ub) i.g) ≠ 0 → 0 < s.tOld + lastStep s) ∧
    (cauchyFinish i s).2.length = k ∧
    vec k (cauchyFinish i s).2 =
      (wmat n k i.W)ᵀ *ᵥ (vec n (pathAt i (s.tOld + lastStep s)) - vec n i.x) := by
  have hld : s.d.length = n := h.path.len_d.trans hc.q.hx
  have h0 := h.path.tOld_nonneg
  have hm0 := lastStep_nonneg s
  obtain ⟨δ, hmδ, hseg⟩ : ∃ δ, lastStep s < δ ∧ ∀ τ, s.tOld ≤ τ → τ ≤ s.tOld + δ → SegAt i n s τ := by
    cases hf : s.found
    · exact ⟨1, (lastStep_of_zero n s hld (h.dir_zero hc hf)).trans_lt one_pos,
        fun τ h1 _ => h.seg hc hf τ (fun _ hj => absurd hj List.not_mem_nil) τ h1 le_rfl⟩
    · obtain ⟨δ, a, b, c⟩ := h.done hf
      exact ⟨δ, lastStep_lt s δ a b, c⟩
  obtain ⟨hb, hge, hle⟩ := h.der.lastStep_slope hld (hc.pd _)
  have hT : s.tOld ≤ s.tOld + lastStep s := le_add_of_nonneg_right hm0
  have hTδ : s.tOld + lastStep s ≤ s.tOld + δ := add_le_add_right hmδ.le _
  have e : s.tOld + lastStep s - s.tOld = lastStep s := add_sub_cancel_left _ _
  have hsT := hseg _ hT hTδ
  rw [cauchyFinish_eq]
  refine ⟨⟨h0.trans hT, ?_, δ - lastStep s, sub_pos.2 hmδ, fun τ h1 h2 => ?_⟩, path_final hc.box hc.hgx _ h.path hT,
    fun hne => ?_, (h.der.c_step _).1, ?_⟩
  · -- strict decrease up to the step: beyond `t_old` along the current segment
    refine Dec.concat h.dec (seg_dec i n k Mm hc.q.hsym s h.der _ (fun hm => ?_) fun τ h1 h2 => hseg τ h1 (h2.trans hTδ))
    rw [e] at hm ⊢
    exact hle hm
  · -- local minimum from the right
    rw [phi_seg i n k Mm hc.q.hsym s h.der τ (hseg τ (hT.trans h1) (h2.trans_eq (add_add_sub_cancel _ _ _))),
      phi_seg i n k Mm hc.q.hsym s h.der _ hsT, e]
    exact add_le_add_right (parab_min s.f1 _ (lastStep s) (τ - s.tOld) hb hge (le_sub_iff_add_le'.2 h1)) _
  · -- the search has left `t = 0` already, or takes a positive last step
    rcases h.pos hne with hp | ⟨hp, hD⟩
    · exact add_pos_of_pos_of_nonneg hp hm0
    · rw [lastStep_of_ne n s hld hD, if_neg (not_lt.2 hp.le)]
      exact add_pos_of_nonneg_of_pos h0 hp
  · rw [hsT, e, (h.der.c_step _).2]

theorem finish_claims (i : CauchyIn K) (n k : Nat) (Mm : Matrix (Fin k) (Fin k) K) (f2org : K)
    (hc : MinCtx i n k Mm f2org) (s : CauchySt K) (P : List Nat) (h : CInv i n k Mm s P []) :
    IsFirstLocalMin i n k Mm (s.tOld + lastStep s) ∧
    (cauchyFinish i s).1 = pathAt i (s.tOld + lastStep s) ∧
    vec k (cauchyFinish i s).2 =
      (wmat n k i.W)ᵀ *ᵥ (vec n (pathAt i (s.tOld + lastStep s)) - vec n i.x) := by
  obtain ⟨a, b, -, -, c⟩ := finish_flm i n k Mm f2org hc s P h
  exact ⟨(C08.isFirstLocalMin_iff i n k Mm _).2 a, b, c⟩

/-- the point `cauchy` returns is `P(x − tF g)` for the first local minimiser `tF` of the model along the projected path (`tF > 0`
unless the initial direction is zero), and its second component is `c = Wᵀ(x_cp − x)`. The facts stand in the order their users take
them: most write `⟨tF, h, hp, -⟩` -/
theorem cauchy_first_local_min (i : CauchyIn K) (n k : Nat) (Mm : Matrix (Fin k) (Fin k) K)
    (hk : kOf i = k) (hc : MinCtx i n k Mm (f2orgOf i)) :
    ∃ tF, C08.FirstLocalMin (phi i n k Mm) tF ∧ (cauchy i).1 = pathAt i tF ∧
      (vec n (cauchyD0 (breakpoints i.x i.g i.lb i.ub) i.g) ≠ 0 → 0 < tF) ∧ (cauchy i).2.length = k ∧
      vec k (cauchy i).2 = (wmat n k i.W)ᵀ *ᵥ (vec n (pathAt i tF) - vec n i.x) := by
  have hinit := init_cinv i n k Mm (f2orgOf i) hc hk
  rw [cauchy_eq]
  split
  · -- no positive breakpoint: the loop does not run, the direction is zero and the point is `x = P(0)`
    rename_i hemp
    rw [List.isEmpty_iff.1 hemp] at hinit
    have hD : vec n (cauchyInit i).d = 0 := hinit.dir_zero hc rfl
    obtain ⟨a, -⟩ := finish_flm i n k Mm (f2orgOf i) hc _ [] hinit
    have hls := lastStep_of_zero n (cauchyInit i) (hinit.path.len_d.trans hc.q.hx) hD
    rw [hls, show (cauchyInit i).tOld + 0 = 0 from add_zero 0] at a
    refine ⟨0, a, (pathAt_zero i hc.box hc.hgx).symm, fun hne => absurd hD hne, hinit.der.len_c, ?_⟩
    rw [pathAt_zero i hc.box hc.hgx, sub_self, mulVec_zero]
    exact vec_zeros k _
  · obtain ⟨P', hP'⟩ := loop_cinv i n k Mm hk hc
    exact ⟨_, finish_flm i n k Mm (f2orgOf i) hc _ P' hP'⟩

theorem cauchy_c_length (i : CauchyIn K) (n k : Nat) (Mm : Matrix (Fin k) (Fin k) K)
    (hk : kOf i = k) (hc : MinCtx i n k Mm (f2orgOf i)) : (cauchy i).2.length = k := by
  obtain ⟨-, -, -, -, h, -⟩ := cauchy_first_local_min i n k Mm hk hc
  exact h

end Lbfgsb
