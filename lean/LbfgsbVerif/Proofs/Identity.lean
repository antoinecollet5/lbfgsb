/-
  C13, first clause: an update function that returns its inputs unchanged leaves the run
  unchanged. A simulation between the run with the hook (configuration `c.up true`) and the
  run without it (`c.up false`), through states equal up to the ghost logs (Proofs/Ghost.lean),
  an instance of Proofs/Sim.lean (`identity_hooks`) under an invariant of the memory: consecutive stored
  pairs pass the curvature test (so the filter has nothing to drop) and the matrices snapshot is the
  current history (so rebuilding it changes nothing). Law used besides order-free reasoning: the curvature
  test is symmetric in (newer, older) — in IEEE arithmetic `(a − b) = −(b − a)` and `(−p)(−q) = pq` exactly.
-/
import LbfgsbVerif.Proofs.Ghost
import LbfgsbVerif.Proofs.C18

namespace Lbfgsb
variable {α ε δ : Type}
variable [Add α] [Sub α] [Mul α] [Div α] [Neg α] [LT α] [DecidableLT α] [OfNat α 0] [OfNat α 1] [FloatLike α]

abbrev Cfg.up (c : Cfg α) (b : Bool) : Cfg α := { c with hasUpdate := b }

def IdUpdate (u : User α ε) : Prop := ∀ i : UpdIn α, u.update i = .ok ⟨i.f0, i.f0Old, i.grad, i.G⟩

structure MemI (c : Cfg α) (s : St α) : Prop where
  len : s.X.length = s.G.length
  pos : s.X ≠ []
  pairs : C13.PairsOk c.epsSY s.X s.G
  mats : s.mats = if s.X.length > 1 then some (s.X, s.G) else none

theorem memStep_memI (c : Cfg α)
    (hsym : ∀ x g x' g' : Vec α, curvOk x g x' g' c.epsSY = curvOk x' g' x g c.epsSY) (hmc : 1 ≤ c.maxcor)
    (s : St α) (hi : MemI c s) : MemI c (memStep (c.up false) s) := by
  have hs := updateMats_hist c.epsSY s.X s.G s.x s.g c.maxcor s.mats hi.len hi.pos
    ((pairsOk_iff_curvChain _ hsym _ _).1 hi.pairs)
  refine ⟨hs.len, hs.pos, (pairsOk_iff_curvChain _ hsym _ _).2 hs.chain, ?_⟩
  cases hk : curvOk s.x s.g (lastD s.X) (lastD s.G) c.epsSY
  · rw [memStep_reject (c.up false) s hk]
    exact hi.mats
  · have hacc : (updateMats s.x s.g s.X s.G c.maxcor s.mats c.epsSY).2.2.2 = true := by
      rw [updateMats_accept _ _ _ _ _ _ _ hk]
    have hlen := hs.two hmc hacc
    rw [updateMats_accept _ _ _ _ _ _ _ hk] at hlen
    rw [memStep_accept (c.up false) s hk]
    exact (if_pos hlen).symm

theorem iterFail_memI (c : Cfg α) (s : St α) (hi : MemI c s) : MemI c (iterFail s).1 := by
  unfold iterFail
  split
  · exact ⟨hi.len, hi.pos, hi.pairs, hi.mats⟩
  · exact ⟨rfl, List.cons_ne_nil _ _, trivial, rfl⟩

/-- the snapshot the hook forces to be rebuilt is the one already held -/
theorem memStep_up (c : Cfg α) (s : St α) (hi : MemI c s) :
    memStep (c.up true) s = memStep (c.up false) s := by
  cases hk : curvOk s.x s.g (lastD s.X) (lastD s.G) c.epsSY
  · rw [memStep_reject (c.up true) s hk, memStep_reject (c.up false) s hk]
    show { s with mats := if s.X.length > 1 then some (s.X, s.G) else none } = { s with mats := s.mats }
    rw [← hi.mats]
  · rw [memStep_accept (c.up true) s hk, memStep_accept (c.up false) s hk]

/-- the relation of the simulation: `a` a state of the run with the hook, `b` of the run without -/
def GR (c : Cfg α) (a b : St α) : Prop := a.er = b.er ∧ MemI c a

theorem MemI.of_er (c : Cfg α) {a b : St α} (h : a.er = b.er) (hi : MemI c a) : MemI c b := by
  obtain ⟨lg, cbs, ol, rfl⟩ := St.exists_ghost h
  exact ⟨hi.len, hi.pos, hi.pairs, hi.mats⟩

theorem loopCfg_up (c : Cfg α) (b b' : Bool) : LoopCfg (c.up b) (c.up b') := rfl

theorem memI_frame (c : Cfg α) : Frame (MemI c) := fun hi hX hG hm _ =>
  ⟨hX ▸ hG ▸ hi.len, hX ▸ hi.pos, hX ▸ hG ▸ hi.pairs, hm ▸ hX ▸ hG ▸ hi.mats⟩

theorem identity_hooks (u : User α ε) (hid : IdUpdate u) (c : Cfg α)
    (hsym : ∀ x g x' g' : Vec α, curvOk x g x' g' c.epsSY = curvOk x' g' x g c.epsSY) (hmc : 1 ≤ c.maxcor) :
    Hooks u u (c.up true) (c.up false) (fun p q : SF α => p.er = q.er) (MemI c) where
  wrel := er_wrel _
  cfg := loopCfg_up c true false
  frame := memI_frame c
  fail := iterFail_memI c _
  afterEval f0 h hi := by
    -- with the hook: the identity update returns `f, g, G`, and the filter drops nothing (`MemI.pairs`)
    obtain ⟨sfb, cbs, ol, rfl, hw⟩ := h
    unfold afterEval
    simp only [if_true, Bool.false_eq_true, if_false, St.logCall, hid _, bind, Except.bind]
    rw [C13.identity_filter_noop c.epsSY _ _ hi.len hi.pairs]
    exact RelE.pure (stopTests_sim (loopCfg_up c true false) (memI_frame c) f0 ⟨sfb, cbs, ol, rfl, hw⟩
      (memI_frame c hi rfl rfl rfl rfl) (StRel.target_er ⟨sfb, cbs, ol, rfl, hw⟩))
  accept h hi := by
    rw [memStep_up c _ hi]
    exact doCallback_same (er_wrel _) (memI_frame c) rfl rfl (memStep_same (loopCfg_up c false false) rfl h)
      (memStep_memI c hsym hmc _ hi)

theorem mainLoop_gr (u : User α ε) (o : Oracles α δ) (hid : IdUpdate u) (c : Cfg α)
    (hsym : ∀ x g x' g' : Vec α, curvOk x g x' g' c.epsSY = curvOk x' g' x g c.epsSY) (hmc : 1 ≤ c.maxcor) :
    ∀ (fuel : Nat) {a b : St α}, GR c a b →
      RelE (GR c) (mainLoop u o (c.up true) fuel a) (mainLoop u o (c.up false) fuel b) := by
  rintro fuel a b ⟨he, hi⟩
  exact (mainLoop_sim (identity_hooks u hid c hsym hmc) fuel (StRel.of_er he) hi).mono fun _ _ h =>
    ⟨h.1.er, h.2⟩

theorem prepare_gr (u : User α ε) (hid : IdUpdate u) (c : Cfg α) (i : Init α) (hX : i.X = [])
    (hG : i.G = []) :
    RelE (GR c) (prepare u (c.up true) i) (prepare u (c.up false) i) := by
  unfold prepare
  refine RelE.bind (R := Eq) (RelE.refl (firstGrad u (c.up false) i)) ?_
  rintro e _ rfl
  refine RelE.bind (RelE.diag (P := fun s1 => s1.X = [] ∧ s1.G = [] ∧ s1.mats = none)
    (applyScaler u (c.up false) { i.state with sf := e.1 } e.2) fun s1 hs => ?_) ?_
  · rcases applyScaler_ok hs with ⟨-, rfl⟩ | ⟨sc, -, -, rfl⟩
    · exact ⟨hX, hG, rfl⟩
    · exact ⟨hX, hG, rfl⟩
  rintro s1 _ ⟨rfl, h1, h2, h3⟩
  -- the memory is empty, so nothing is filtered: what differs is the log entry of the call
  unfold IdUpdate at hid
  simp only [applyUpdate0, if_true, Bool.false_eq_true, if_false, St.logCall, hid, bind, Except.bind, pure,
    Except.pure, RelE, h1, List.length_nil, Nat.lt_irrefl, gt_iff_lt, initMemory]
  refine ⟨by simp [St.er, SF.er], rfl, by simp, by simp [C13.PairsOk], ?_⟩
  simp [h3]

/-- **the simulation**: with an update function that returns its inputs, switching the hook on or
off does not change the result (fresh run) -/
theorem minimize_identity (u : User α ε) (o : Oracles α δ) (hid : IdUpdate u) (c : Cfg α)
    (hck : c.checkpoint = none)
    (hsym : ∀ x g x' g' : Vec α, curvOk x g x' g' c.epsSY = curvOk x' g' x g c.epsSY) (hmc : 1 ≤ c.maxcor) :
    RelE (fun p q => p.1 = q.1) (minimize u o (c.up true)) (minimize u o (c.up false)) :=
  minimize_sim (identity_hooks u hid c hsym hmc) (R := fun i j => i = j ∧ i.X = [] ∧ i.G = [])
    (RelE.diag (initEval u (c.up false)) fun i hi => initEval_fresh u (c.up false) i hck hi)
    (fun _ _ e => e.1 ▸ ⟨rfl, fun _ => rfl⟩)
    fun i _ e => e.1 ▸ (prepare_gr u hid c i e.2.1 e.2.2).mono fun _ _ h => ⟨StRel.of_er h.1, h.2⟩

end Lbfgsb
