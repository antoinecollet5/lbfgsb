/-
  The memoising wrapper `Model/SF.lean` (level U): what a successful return of each operation
  means (`_ok`; `callF_ok`, `updFun_ok`, `funv_ok` are iff — the first is a `simp` rewrite,
  Props/C15 uses the converse of the other two — the others one-way); cache coherence `Coh` against the stateless `gradSpec`; `LogExt P l l'`
  (a log extended by entries satisfying `P`) and `EvalAt`, the entries one request may add; the
  summary `EvalSum` of one request, with `funv_sum`, `gradv_sum`, `funAndGrad_sum`.
-/
import LbfgsbVerif.Model.SF
import LbfgsbVerif.Proofs.Basic
import LbfgsbVerif.Proofs.Except

namespace Lbfgsb
variable {α ε : Type}

/-- the stateless specification of a gradient request (unscaled) -/
def gradSpec [LT α] [DecidableLT α] [OfNat α 0] (u : SFUser α ε) (lb ub : Vec α) :
    GradMode → Vec α → Except ε (Vec α)
  | .callable, x => u.Gr x
  | .fd, x => do
    let f ← u.F x
    let vs ← (u.fdPts x f).mapM u.F
    pure (zeroFixed lb ub (u.fdComb x f vs))

def Coh [LT α] [DecidableLT α] [OfNat α 0] (u : SFUser α ε) (s : SF α) : Prop :=
  (s.fUpd = true → u.F s.x = .ok s.f) ∧
    (s.gUpd = true → gradSpec u s.lb s.ub s.mode s.x = .ok s.g)

def fcalls (ps : List (Vec α)) : List (Call α) := ps.map (Call.mk .F)

theorem new_coh [LT α] [DecidableLT α] [OfNat α 0] [OfNat α 1] (u : SFUser α ε) (mode : GradMode)
    (x0 lb ub : Vec α) : Coh u (SF.new mode x0 lb ub) := by
  simp [Coh, SF.new]

theorem callF_ok {u : SFUser α ε} {s s' : SF α} {p : Vec α} {v : α} :
    s.callF u p = .ok (s', v) ↔
      u.F p = .ok v ∧ s' = { s with nfev := s.nfev + 1, log := s.log ++ [Call.mk .F p] } := by
  simp only [SF.callF, bind_ok, pure_ok, Prod.mk.injEq]
  constructor
  · rintro ⟨a, ha, rfl, rfl⟩
    exact ⟨ha, rfl⟩
  · rintro ⟨ha, rfl⟩
    exact ⟨v, ha, rfl, rfl⟩

theorem callFs_ok {u : SFUser α ε} {ps : List (Vec α)} {s s' : SF α} {vs : List α}
    (h : SF.callFs u s ps = .ok (s', vs)) :
    ps.mapM u.F = .ok vs ∧
      s' = { s with nfev := s.nfev + ps.length, log := s.log ++ fcalls ps } := by
  induction ps generalizing s s' vs with
  | nil =>
    obtain ⟨rfl, rfl⟩ := Prod.mk.inj (pure_ok.1 h)
    simp [fcalls, pure, Except.pure]
  | cons p ps ih =>
    simp only [SF.callFs, bind_ok, pure_ok, Prod.exists, Prod.mk.injEq] at h
    obtain ⟨s1, v, h1, s2, vs2, h2, rfl, rfl⟩ := h
    obtain ⟨hF, rfl⟩ := callF_ok.1 h1
    obtain ⟨hM, rfl⟩ := ih h2
    refine ⟨?_, ?_⟩
    · simp [List.mapM_cons, hF, hM, bind, Except.bind, pure, Except.pure]
    · simp [fcalls, Nat.add_assoc, Nat.add_comm 1]

theorem updFun_ok {u : SFUser α ε} {s s' : SF α} :
    s.updFun u = .ok s' ↔
      (s.fUpd = true ∧ s' = s) ∨
      (s.fUpd = false ∧ ∃ v, u.F s.x = .ok v ∧
        s' = { s with nfev := s.nfev + 1, log := s.log ++ [Call.mk .F s.x], f := v,
                      fUpd := true }) := by
  unfold SF.updFun
  cases s.fUpd with
  | false =>
    simp only [Bool.false_eq_true, if_false, bind_ok, Prod.exists, callF_ok, pure_ok,
      false_and, false_or, true_and]
    constructor
    · rintro ⟨s1, v, ⟨hv, rfl⟩, rfl⟩
      exact ⟨v, hv, rfl⟩
    · rintro ⟨v, hv, rfl⟩
      exact ⟨_, v, ⟨hv, rfl⟩, rfl⟩
  | true =>
    simp only [if_true, true_and, Bool.true_eq_false, false_and, or_false]
    exact pure_ok.trans eq_comm

theorem updGrad_ok [LT α] [DecidableLT α] [OfNat α 0] {u : SFUser α ε} {s s' : SF α}
    (h : s.updGrad u = .ok s') :
    (s.gUpd = true ∧ s' = s) ∨
    (s.gUpd = false ∧ s.mode = .callable ∧ ∃ g, u.Gr s.x = .ok g ∧
      s' = { s with ngev := s.ngev + 1, log := s.log ++ [Call.mk .G s.x], g := g, gUpd := true }) ∨
    (s.gUpd = false ∧ s.mode = .fd ∧ ∃ s1 vs, s.updFun u = .ok s1 ∧
      (u.fdPts s1.x s1.f).mapM u.F = .ok vs ∧
      s' = { s1 with ngev := s1.ngev + 1, nfev := s1.nfev + (u.fdPts s1.x s1.f).length,
                     log := s1.log ++ fcalls (u.fdPts s1.x s1.f),
                     g := zeroFixed s1.lb s1.ub (u.fdComb s1.x s1.f vs), gUpd := true }) := by
  unfold SF.updGrad at h
  split at h
  next hg => exact Or.inl ⟨hg, (pure_ok.1 h).symm⟩
  next hg =>
    have hg : s.gUpd = false := Bool.eq_false_iff.2 hg
    split at h
    next hm =>
      simp only [bind_ok, pure_ok] at h
      obtain ⟨g, hG, rfl⟩ := h
      exact Or.inr (Or.inl ⟨hg, hm, g, hG, rfl⟩)
    next hm =>
      simp only [bind_ok, pure_ok, Prod.exists] at h
      obtain ⟨s1, h1, s2, vs, h2, rfl⟩ := h
      obtain ⟨hM, rfl⟩ := callFs_ok h2
      exact Or.inr (Or.inr ⟨hg, hm, s1, vs, h1, hM, rfl⟩)

section
variable [LT α] [DecidableLT α] [Mul α]

theorem funv_ok {u : SFUser α ε} {s s' : SF α} {x : Vec α} {f : α} :
    s.funv u x = .ok (s', f) ↔ (s.updateX x).updFun u = .ok s' ∧ f = s'.f * s'.scale := by
  simp only [SF.funv, bind_ok, pure_ok, Prod.mk.injEq]
  constructor
  · rintro ⟨s1, h1, rfl, rfl⟩
    exact ⟨h1, rfl⟩
  · rintro ⟨h1, rfl⟩
    exact ⟨s', h1, rfl, rfl⟩

variable [OfNat α 0]

theorem gradv_ok {u : SFUser α ε} {s s' : SF α} {x g : Vec α} (h : s.gradv u x = .ok (s', g)) :
    (s.updateX x).updGrad u = .ok s' ∧ g = vscale s'.g s'.scale := by
  simp only [SF.gradv, bind_ok, pure_ok, Prod.mk.injEq] at h
  obtain ⟨s1, h1, rfl, rfl⟩ := h
  exact ⟨h1, rfl⟩

theorem funAndGrad_ok {u : SFUser α ε} {s s' : SF α} {x g : Vec α} {f : α}
    (h : s.funAndGrad u x = .ok (s', f, g)) :
    ∃ s1, (s.updateX x).updFun u = .ok s1 ∧ s1.updGrad u = .ok s' ∧
      f = s'.f * s'.scale ∧ g = vscale s'.g s'.scale := by
  simp only [SF.funAndGrad, bind_ok, pure_ok, Prod.mk.injEq] at h
  obtain ⟨s1, h1, s2, h2, rfl, rfl, rfl⟩ := h
  exact ⟨s1, h1, h2, rfl, rfl⟩

theorem SF.step_ok {u : SFUser α ε} {s s' : SF α} {op : SFOp α} {o : SFOut α}
    (h : s.step u op = .ok (s', o)) :
    (∃ x f, op = .funv x ∧ s.funv u x = .ok (s', f) ∧ o = .val f) ∨
    (∃ x g, op = .gradv x ∧ s.gradv u x = .ok (s', g) ∧ o = .grad g) ∨
    (∃ x f g, op = .funAndGrad x ∧ s.funAndGrad u x = .ok (s', f, g) ∧ o = .both f g) ∨
    (∃ c, op = .setScale c ∧ s' = { s with scale := c } ∧ o = .unit) := by
  cases op with
  | funv x =>
    obtain ⟨⟨s1, f⟩, h1, h2⟩ := bind_ok.1 h
    cases pure_ok.1 h2
    exact Or.inl ⟨x, f, rfl, h1, rfl⟩
  | gradv x =>
    obtain ⟨⟨s1, g⟩, h1, h2⟩ := bind_ok.1 h
    cases pure_ok.1 h2
    exact Or.inr (Or.inl ⟨x, g, rfl, h1, rfl⟩)
  | funAndGrad x =>
    obtain ⟨⟨s1, f, g⟩, h1, h2⟩ := bind_ok.1 h
    cases pure_ok.1 h2
    exact Or.inr (Or.inr (Or.inl ⟨x, f, g, rfl, h1, rfl⟩))
  | setScale c =>
    cases pure_ok.1 h
    exact Or.inr (Or.inr (Or.inr ⟨c, rfl, rfl, rfl⟩))

theorem SF.steps_cons_ok {u : SFUser α ε} {s s' : SF α} {op : SFOp α}
    {ops : List (SFOp α)} {outs : List (SFOut α)}
    (h : SF.steps u s (op :: ops) = .ok (s', outs)) :
    ∃ s1 o os, s.step u op = .ok (s1, o) ∧ SF.steps u s1 ops = .ok (s', os) ∧ outs = o :: os := by
  obtain ⟨⟨s1, o⟩, h1, h2⟩ := bind_ok.1 h
  obtain ⟨⟨s2, os⟩, h3, h4⟩ := bind_ok.1 h2
  cases pure_ok.1 h4
  exact ⟨s1, o, os, h1, h3, rfl⟩

end

theorem updateX_same [LT α] [DecidableLT α] (hir : ∀ a : α, ¬ a < a) (s : SF α) :
    s.updateX s.x = s := by
  unfold SF.updateX
  rw [veq_refl hir]
  rfl

section
variable [LinearOrder α]

theorem updateX_eq (s : SF α) (x : Vec α) :
    ∃ fu gu, s.updateX x = { s with x := x, fUpd := fu, gUpd := gu } ∧
      (s.fUpd = false → fu = false) := by
  unfold SF.updateX
  split
  next h =>
    obtain rfl := (veq_iff _ _).1 h
    exact ⟨s.fUpd, s.gUpd, rfl, id⟩
  next => exact ⟨_, _, rfl, fun _ => rfl⟩

variable [OfNat α 0]

theorem updateX_coh {u : SFUser α ε} {s : SF α} (h : Coh u s) (x : Vec α) :
    Coh u (s.updateX x) := by
  unfold SF.updateX
  split
  · exact h
  · simp [Coh]

end

def LogExt (P : Call α → Prop) (l l' : List (Call α)) : Prop :=
  ∃ d, l' = l ++ d ∧ ∀ c ∈ d, P c

theorem LogExt.refl {P : Call α → Prop} (l : List (Call α)) : LogExt P l l :=
  ⟨[], by simp, by simp⟩

theorem LogExt.trans {P : Call α → Prop} {l1 l2 l3 : List (Call α)}
    (h1 : LogExt P l1 l2) (h2 : LogExt P l2 l3) : LogExt P l1 l3 := by
  obtain ⟨d1, rfl, p1⟩ := h1
  obtain ⟨d2, rfl, p2⟩ := h2
  exact ⟨d1 ++ d2, List.append_assoc .., List.forall_mem_append.2 ⟨p1, p2⟩⟩

theorem LogExt.mono {P Q : Call α → Prop} {l l' : List (Call α)} (h : LogExt P l l')
    (hpq : ∀ c, P c → Q c) : LogExt Q l l' := by
  obtain ⟨d, rfl, p⟩ := h
  exact ⟨d, rfl, fun c hc => hpq c (p c hc)⟩

theorem LogExt.single {P : Call α → Prop} (l : List (Call α)) (c : Call α) (h : P c) :
    LogExt P l (l ++ [c]) :=
  ⟨[c], rfl, by simpa using h⟩

theorem LogExt.all {P : Call α → Prop} {l l' : List (Call α)} (h : LogExt P l l')
    (hl : ∀ c ∈ l, P c) : ∀ c ∈ l', P c := by
  obtain ⟨d, rfl, p⟩ := h
  exact List.forall_mem_append.2 ⟨hl, p⟩

/-- what one objective/gradient request at `x` may append to the log -/
def EvalAt (u : SFUser α ε) (mode : GradMode) (x : Vec α) (c : Call α) : Prop :=
  (c.kind = .F ∨ c.kind = .G) ∧
    (c.arg = x ∨ (mode = .fd ∧ ∃ f, c.arg ∈ u.fdPts x f))

section
variable [LinearOrder α] [OfNat α 0]

structure EvalSum (u : SFUser α ε) (s s' : SF α) (x : Vec α) : Prop where
  coh : Coh u s'
  x_eq : s'.x = x
  mode : s'.mode = s.mode
  lb : s'.lb = s.lb
  ub : s'.ub = s.ub
  scale : s'.scale = s.scale
  log : LogExt (EvalAt u s.mode x) s.log s'.log
  nfev_ge : s.nfev ≤ s'.nfev
  nfev_le : s.mode = .callable → s'.nfev ≤ s.nfev + 1
  ngev_ge : s.ngev ≤ s'.ngev

theorem EvalSum.refl {u : SFUser α ε} {s : SF α} (hc : Coh u s) : EvalSum u s s s.x :=
  ⟨hc, rfl, rfl, rfl, rfl, rfl, LogExt.refl _, Nat.le_refl _, fun _ => Nat.le_succ _, Nat.le_refl _⟩

theorem updFun_evalSum {u : SFUser α ε} {s s' : SF α} (hc : Coh u s) (h : s.updFun u = .ok s') :
    EvalSum u s s' s.x ∧ s'.fUpd = true ∧ u.F s.x = .ok s'.f ∧ (s.fUpd = true → s' = s) ∧
      (s.fUpd = false → s'.nfev = s.nfev + 1) := by
  rcases updFun_ok.1 h with ⟨hf, rfl⟩ | ⟨hf, v, hv, rfl⟩
  · exact ⟨.refl hc, hf, hc.1 hf, fun _ => rfl, fun h' => by simp [hf] at h'⟩
  · exact ⟨{ EvalSum.refl hc with
        coh := ⟨fun _ => hv, hc.2⟩
        log := LogExt.single _ _ ⟨Or.inl rfl, Or.inl rfl⟩
        nfev_ge := Nat.le_succ _
        nfev_le := fun _ => Nat.le_refl _ },
      rfl, hv, fun h' => by simp [hf] at h', fun _ => rfl⟩

theorem updGrad_evalSum {u : SFUser α ε} {s s' : SF α} (hc : Coh u s)
    (h : s.updGrad u = .ok s') :
    EvalSum u s s' s.x ∧ gradSpec u s.lb s.ub s.mode s.x = .ok s'.g ∧
      (s.fUpd = true → s'.f = s.f ∧ s'.fUpd = true) ∧ (s.mode = .callable → s'.nfev = s.nfev) := by
  rcases updGrad_ok h with ⟨hg, rfl⟩ | ⟨hg, hm, g, hG, rfl⟩ | ⟨hg, hm, s1, vs, h1, hM, rfl⟩
  · exact ⟨.refl hc, hc.2 hg, fun h => ⟨rfl, h⟩, fun _ => rfl⟩
  · have hspec : gradSpec u s.lb s.ub s.mode s.x = .ok g := by
      rw [hm]
      exact hG
    exact ⟨{ EvalSum.refl hc with
        coh := ⟨hc.1, fun _ => hspec⟩
        log := LogExt.single _ _ ⟨Or.inr rfl, Or.inl rfl⟩
        ngev_ge := Nat.le_succ _ },
      hspec, fun hf => ⟨rfl, hf⟩, fun _ => rfl⟩
  · obtain ⟨e1, hf1, hF1, hsame, -⟩ := updFun_evalSum hc h1
    -- the finite-difference gradient is the stateless one: same objective value, same stencil
    have hspec : gradSpec u s.lb s.ub s.mode s.x =
        .ok (zeroFixed s1.lb s1.ub (u.fdComb s1.x s1.f vs)) := by
      rw [hm]
      simp only [gradSpec, hF1, bind, Except.bind]
      rw [← e1.x_eq, hM, e1.lb, e1.ub]
      rfl
    refine ⟨{ e1 with
        coh := ⟨fun _ => e1.coh.1 hf1, fun _ => ?_⟩
        log := e1.log.trans ⟨_, rfl, ?_⟩
        nfev_ge := Nat.le_trans e1.nfev_ge (Nat.le_add_right _ _)
        nfev_le := fun h => by simp [hm] at h
        ngev_ge := Nat.le_trans e1.ngev_ge (Nat.le_succ _) },
      hspec, fun hf => ?_, fun h => by simp [hm] at h⟩
    · simpa [e1.mode, e1.x_eq, e1.lb, e1.ub] using hspec
    · rw [hm, e1.x_eq]
      intro c hc
      obtain ⟨p, hp, rfl⟩ := List.mem_map.1 hc
      exact ⟨Or.inl rfl, Or.inr ⟨rfl, s1.f, hp⟩⟩
    · rw [hsame hf]
      exact ⟨rfl, hf⟩

variable [Mul α]

theorem funv_sum {u : SFUser α ε} {s s' : SF α} {x : Vec α} {f : α} (hc : Coh u s)
    (h : s.funv u x = .ok (s', f)) :
    EvalSum u s s' x ∧ (∃ f0, u.F x = .ok f0 ∧ f = f0 * s.scale) ∧
      (s.fUpd = false → s'.nfev = s.nfev + 1) := by
  obtain ⟨h1, rfl⟩ := funv_ok.1 h
  have hc0 := updateX_coh hc x
  obtain ⟨fu, gu, e, hfu⟩ := updateX_eq s x
  rw [e] at h1 hc0
  obtain ⟨e1, -, hF, -, hn⟩ := updFun_evalSum hc0 h1
  exact ⟨{ e1 with }, ⟨s'.f, hF, by rw [e1.scale]⟩, fun hf => hn (hfu hf)⟩

theorem gradv_sum {u : SFUser α ε} {s s' : SF α} {x : Vec α} {g : Vec α} (hc : Coh u s)
    (h : s.gradv u x = .ok (s', g)) :
    EvalSum u s s' x ∧ (∃ g0, gradSpec u s.lb s.ub s.mode x = .ok g0 ∧ g = vscale g0 s.scale) ∧
      (s.mode = .callable → s'.nfev = s.nfev) := by
  obtain ⟨h1, rfl⟩ := gradv_ok h
  have hc0 := updateX_coh hc x
  obtain ⟨fu, gu, e, -⟩ := updateX_eq s x
  rw [e] at h1 hc0
  obtain ⟨e1, hG, -, hn⟩ := updGrad_evalSum hc0 h1
  exact ⟨{ e1 with }, ⟨s'.g, hG, by rw [e1.scale]⟩, hn⟩

theorem funAndGrad_sum {u : SFUser α ε} {s s' : SF α} {x : Vec α} {f : α} {g : Vec α}
    (hc : Coh u s) (h : s.funAndGrad u x = .ok (s', f, g)) :
    EvalSum u s s' x ∧ (∃ f0, u.F x = .ok f0 ∧ f = f0 * s.scale) ∧
      ∃ g0, gradSpec u s.lb s.ub s.mode x = .ok g0 ∧ g = vscale g0 s.scale := by
  obtain ⟨s1, h1, h2, rfl, rfl⟩ := funAndGrad_ok h
  have hc0 := updateX_coh hc x
  obtain ⟨fu, gu, e, -⟩ := updateX_eq s x
  rw [e] at h1 hc0
  obtain ⟨e1, hf1, hF, -⟩ := updFun_evalSum hc0 h1
  obtain ⟨e2, hG, hkeep, hcal⟩ := updGrad_evalSum e1.coh h2
  rw [e1.x_eq, e1.mode, e1.lb, e1.ub] at hG
  have hx2 : s'.x = x := e2.x_eq.trans e1.x_eq
  exact ⟨⟨e2.coh, hx2, e2.mode.trans e1.mode, e2.lb.trans e1.lb, e2.ub.trans e1.ub,
    e2.scale.trans e1.scale, e1.log.trans (by simpa [e1.mode, e1.x_eq] using e2.log),
    Nat.le_trans e1.nfev_ge e2.nfev_ge,
    fun hm => Nat.le_trans (Nat.le_of_eq (hcal (e1.mode.trans hm))) (e1.nfev_le hm),
    Nat.le_trans e1.ngev_ge e2.ngev_ge⟩,
    ⟨s1.f, hF, by rw [(hkeep hf1).1, e2.scale, e1.scale]⟩, s'.g, hG, by rw [e2.scale, e1.scale]⟩

end
end Lbfgsb
