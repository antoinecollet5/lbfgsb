/-
  When no bound interferes (every variable strictly inside its bounds at `x_cp`, `x_cp + d̂` feasible) the subspace step of
  the model is the full quasi-Newton step: `α* = 1` and `B (x̄ − x) = −g`.
-/
import LbfgsbVerif.Proofs.SubspaceBridge

namespace Lbfgsb.FullNewton
open Lbfgsb Matrix
variable {K : Type} [Field K] [LinearOrder K] [IsStrictOrderedRing K]

theorem alphaStar_eq_one (xc d lb ub : Vec K) (mask : List Bool) (hd : d.length = xc.length)
    (hf : InBoxF lb ub (vadd xc d)) : alphaStar xc d lb ub mask = 1 :=
  le_antisymm ((le_foldl_fmin_iff _ 1 _).1 le_rfl).1
    (le_alphaStar_of_feasible xc d lb ub mask 1 le_rfl (by rwa [smul_one']))

/-- at a Cauchy point strictly inside the box every variable is free (`freeMask_strict`) -/
def StrictIn : Vec K → Vec K → Vec K → Prop
  | [], [], [] => True
  | l :: ls, u :: us, p :: ps => (l < p ∧ p < u) ∧ StrictIn ls us ps
  | _, _, _ => False

theorem freeMask_strict (xc lb ub : Vec K) (h : StrictIn lb ub xc) :
    freeMask xc lb ub = List.replicate xc.length true := by
  fun_induction StrictIn lb ub xc with
  | case1 => rfl
  | case2 l ls u us a as ih =>
    obtain ⟨⟨h1, h2⟩, hr⟩ := h
    rw [freeMask, ih hr, List.length_cons, List.replicate_succ]
    congr 1
    have hu : feq a u = false := Bool.eq_false_iff.2 fun e => h2.ne ((feq_iff _ _).1 e)
    have hl : feq a l = false := Bool.eq_false_iff.2 fun e => h1.ne' ((feq_iff _ _).1 e)
    rw [isFree, hu, hl]
    rfl
  | case3 => exact h.elim

theorem inBoxF_of_strict {lb ub p : Vec K} (h : StrictIn lb ub p) : InBoxF lb ub p := by
  fun_induction StrictIn lb ub p with
  | case1 => trivial
  | case2 l ls u us a as ih => exact ⟨⟨le_of_lt h.1.1, le_of_lt h.1.2⟩, ih h.2⟩
  | case3 => exact h.elim

theorem subMask_strict (i : SubIn K) (n : Nat) (hxc : i.xc.length = n) (hint : StrictIn i.lb i.ub i.xc) :
    subMask i = List.replicate n true := by
  rw [subMask, freeMask_strict _ _ _ hint, hxc]

theorem newton_of_spec (i : SubIn K) (n k : Nat) (Mm : Matrix (Fin k) (Fin k) K) (h : SubSpec i n k Mm)
    (hxc : i.xc.length = n) (hint : StrictIn i.lb i.ub i.xc) :
    bmat i.theta (wmat n k i.W) Mm *ᵥ ((vec n i.xc - vec n i.x) + vec n (subD i)) = -vec n i.g := by
  funext r
  have hr : maskF n (subMask i) r = true := by
    rw [maskF, subMask_strict i n hxc hint, List.getD_replicate _ r.2]
  exact eq_neg_of_add_eq_zero_right (h.newton r hr)

theorem subspaceMin_full (i : SubIn K) (n : Nat) (hn : 0 < n) (hxc : i.xc.length = n) (hDl : (subD i).length = n)
    (hint : StrictIn i.lb i.ub i.xc) (hfeas : InBoxF i.lb i.ub (vadd i.xc (subD i))) :
    subspaceMin i = vadd i.xc (subD i) := by
  have hany : (subMask i).any id = true := by
    rw [subMask_strict i n hxc hint, List.any_replicate, if_neg hn.ne']
    rfl
  rw [subspaceMin_eq, hany, Bool.not_true, if_neg Bool.false_ne_true,
    alphaStar_eq_one _ _ _ _ _ (by rw [hDl, hxc]) hfeas, smul_one']
  exact clip_of_inBox (inBoxF_iff_inBox.1 hfeas)

theorem full_step_of_spec (i : SubIn K) (n k : Nat) (Mm : Matrix (Fin k) (Fin k) K) (h : SubSpec i n k Mm)
    (hn : 0 < n) (hx : i.x.length = n) (hxc : i.xc.length = n) (hint : StrictIn i.lb i.ub i.xc)
    (hfeas : InBoxF i.lb i.ub (vadd i.xc (subD i))) :
    subspaceMin i = vadd i.xc (subD i) ∧
      bmat i.theta (wmat n k i.W) Mm *ᵥ (vec n (subspaceMin i) - vec n i.x) = -vec n i.g := by
  have he := subspaceMin_full i n hn hxc h.d_length hint hfeas
  refine ⟨he, ?_⟩
  rw [he, vec_vadd n _ _ hxc h.d_length, add_sub_right_comm]
  exact newton_of_spec i n k Mm h hxc hint

end Lbfgsb.FullNewton
