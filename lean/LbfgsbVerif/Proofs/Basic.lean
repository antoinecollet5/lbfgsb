/-
  Helper lemmas about `Model/Basic.lean` that need no law of arithmetic (level U): lists read through `getD`,
  `vzip` as `List.zipWith`, lengths, and over a linear order `feq`, `veq`, `clip` and `InBox`.
-/
import LbfgsbVerif.Model.Basic
import Mathlib.Order.Defs.LinearOrder

namespace Lbfgsb

section getD
variable {α : Type}

theorem ext_getD {a b : List α} (d : α) (hl : a.length = b.length)
    (h : ∀ j, j < a.length → a.getD j d = b.getD j d) : a = b := by
  apply List.ext_getElem hl
  intro j h1 h2
  have := h j h1
  rw [List.getD_eq_getElem?_getD, List.getD_eq_getElem?_getD, List.getElem?_eq_getElem h1, List.getElem?_eq_getElem h2] at this
  exact this

theorem getD_map {β : Type} (f : α → β) (a : List α) (d : α) {d' : β} (j : Nat) (ha : j < a.length) :
    (a.map f).getD j d' = f (a.getD j d) := by
  rw [List.getD_eq_getElem?_getD, List.getElem?_map, List.getD_eq_getElem?_getD, List.getElem?_eq_getElem ha]
  rfl

theorem getD_set (a : List α) (i j : Nat) (v d : α) :
    (a.set i v).getD j d = if i = j ∧ i < a.length then v else a.getD j d := by
  simp only [List.getD_eq_getElem?_getD, List.getElem?_set]
  by_cases h : i = j
  · subst h
    by_cases h2 : i < a.length
    · simp [h2]
    · simp [h2]
  · simp [h]

theorem getD_set_self (a : List α) (i : Nat) (v d : α) (h : i < a.length) : (a.set i v).getD i d = v := by
  rw [getD_set, if_pos ⟨rfl, h⟩]

theorem getD_set_ne (a : List α) {i j : Nat} (v d : α) (h : i ≠ j) : (a.set i v).getD j d = a.getD j d := by
  rw [getD_set, if_neg fun hh => h hh.1]

theorem getLast?_getD (l : List α) (d : α) (h : 0 < l.length) : l.getLast? = some (l.getD (l.length - 1) d) := by
  rw [List.getLast?_eq_getElem?, List.getD_eq_getElem?_getD, List.getElem?_eq_getElem (by omega)]
  rfl

theorem getD_map_range {A : Type} (f : Nat → A) (m j : Nat) (d : A) (hj : j < m) :
    ((List.range m).map f).getD j d = f j := by
  rw [List.getD_eq_getElem?_getD, List.getElem?_map, List.getElem?_range hj]
  rfl

theorem getD_zip_map {A B C : Type} (f : A × B → C) (a : List A) (b : List B) (j : Nat) (da : A) (db : B) (dc : C)
    (ha : j < a.length) (hb : j < b.length) :
    ((a.zip b).map f).getD j dc = f (a.getD j da, b.getD j db) := by
  have hz : j < (a.zip b).length := by
    rw [List.length_zip]
    exact Nat.lt_min.2 ⟨ha, hb⟩
  rw [List.getD_eq_getElem?_getD, List.getElem?_map, List.getElem?_eq_getElem hz, List.getElem_zip,
    List.getD_eq_getElem?_getD, List.getD_eq_getElem?_getD, List.getElem?_eq_getElem ha, List.getElem?_eq_getElem hb]
  rfl

end getD

section vzip
variable {α : Type}

theorem vzip_eq_zipWith (f : α → α → α) : ∀ a b : Vec α, vzip f a b = List.zipWith f a b
  | [], _ => rfl
  | _ :: _, [] => rfl
  | x :: xs, y :: ys => congrArg (f x y :: ·) (vzip_eq_zipWith f xs ys)

theorem vzip_length (f : α → α → α) (a b : Vec α) : (vzip f a b).length = min a.length b.length := by
  rw [vzip_eq_zipWith, List.length_zipWith]

theorem getD_vzip (f : α → α → α) (a b : List α) (d : α) (j : Nat) (ha : j < a.length) (hb : j < b.length) :
    (vzip f a b).getD j d = f (a.getD j d) (b.getD j d) := by
  rw [vzip_eq_zipWith, List.getD_eq_getElem?_getD, List.getElem?_zipWith, List.getD_eq_getElem?_getD,
    List.getD_eq_getElem?_getD, List.getElem?_eq_getElem ha, List.getElem?_eq_getElem hb]
  rfl

/-- `vzip` against coordinatewise maps: the shape of every "`vadd`/`vsub` commutes with a translation or a rescaling" -/
theorem vzip_map {f g : α → α → α} {φ ψ χ : α → α} (h : ∀ a b, f (φ a) (ψ b) = χ (g a b)) (x y : Vec α) :
    vzip f (x.map φ) (y.map ψ) = (vzip g x y).map χ := by
  simp only [vzip_eq_zipWith, List.zipWith_map, List.map_zipWith, h]

theorem vzip_map_left {f g : α → α → α} {φ χ : α → α} (h : ∀ a b, f (φ a) b = χ (g a b)) (x y : Vec α) :
    vzip f (x.map φ) y = (vzip g x y).map χ := by
  simpa only [List.map_id] using vzip_map (ψ := id) h x y

end vzip

section arith
variable {α : Type}

theorem vadd_cons [Add α] (x y : α) (xs ys : Vec α) : vadd (x :: xs) (y :: ys) = (x + y) :: vadd xs ys := rfl

theorem vsub_cons [Sub α] (x y : α) (xs ys : Vec α) : vsub (x :: xs) (y :: ys) = (x - y) :: vsub xs ys := rfl

theorem smul_cons [Mul α] (c x : α) (xs : Vec α) : smul c (x :: xs) = c * x :: smul c xs := rfl

@[simp] theorem vadd_length [Add α] (a b : Vec α) : (vadd a b).length = min a.length b.length := vzip_length ..

@[simp] theorem vsub_length [Sub α] (a b : Vec α) : (vsub a b).length = min a.length b.length := vzip_length ..

@[simp] theorem smul_length [Mul α] (k : α) (a : Vec α) : (smul k a).length = a.length := List.length_map ..

theorem vscale_one [Mul α] [OfNat α 1] (hmul1 : ∀ a : α, a * 1 = a) (v : Vec α) : vscale v 1 = v := by
  simp only [vscale, hmul1, List.map_id']

theorem getD_vadd_smul [Add α] [Mul α] [OfNat α 0] (a b : Vec α) (t : α) (j : Nat) (ha : j < a.length) (hb : j < b.length) :
    (vadd a (smul t b)).getD j 0 = a.getD j 0 + t * b.getD j 0 := by
  rw [vadd, smul, getD_vzip _ _ _ _ j ha ((List.length_map ..).symm ▸ hb), getD_map _ _ _ j hb]

theorem getD_vsub_smul [Sub α] [Mul α] [OfNat α 0] (a b : Vec α) (t : α) (j : Nat) (ha : j < a.length) (hb : j < b.length) :
    (vsub a (smul t b)).getD j 0 = a.getD j 0 - t * b.getD j 0 := by
  rw [vsub, smul, getD_vzip _ _ _ _ j ha ((List.length_map ..).symm ▸ hb), getD_map _ _ _ j hb]

theorem length_vadd_smul [Add α] [Mul α] (a b : Vec α) (t : α) (h : b.length = a.length) : (vadd a (smul t b)).length = a.length := by
  rw [vadd_length, smul_length, h, Nat.min_self]

theorem length_vsub_smul [Sub α] [Mul α] (a b : Vec α) (t : α) (h : b.length = a.length) : (vsub a (smul t b)).length = a.length := by
  rw [vsub_length, smul_length, h, Nat.min_self]

end arith

section clip
variable {α : Type} [LT α] [DecidableLT α]

theorem clip_cons (x l u : α) (xs ls us : Vec α) :
    clip (x :: xs) (l :: ls) (u :: us) = clip1 l u x :: clip xs ls us := rfl

theorem clip_length (x lb ub : Vec α) : (clip x lb ub).length = x.length := by
  fun_induction clip x lb ub with
  | case1 x xs l ls u us ih => exact congrArg Nat.succ ih
  | case2 => rfl

theorem getD_clip (p lb ub : Vec α) (d : α) (j : Nat) (hp : j < p.length) (hl : lb.length = p.length)
    (hu : ub.length = p.length) :
    (clip p lb ub).getD j d = clip1 (lb.getD j d) (ub.getD j d) (p.getD j d) := by
  induction p generalizing lb ub j with
  | nil => exact absurd hp (Nat.not_lt_zero _)
  | cons x xs ih =>
    obtain ⟨l, ls, rfl⟩ := List.exists_cons_of_length_eq_add_one hl
    obtain ⟨u, us, rfl⟩ := List.exists_cons_of_length_eq_add_one hu
    cases j with
    | zero => rfl
    | succ j => exact ih ls us j (Nat.lt_of_succ_lt_succ hp) (Nat.succ.inj hl) (Nat.succ.inj hu)

theorem veq_refl (hir : ∀ a : α, ¬ a < a) (v : Vec α) : veq v v = true := by
  induction v with
  | nil => rfl
  | cons a as ih => simp [veq, feq, hir a, ih]

end clip

section order
variable {α : Type} [LinearOrder α]

@[simp] theorem feq_iff (a b : α) : feq a b = true ↔ a = b := by
  unfold feq
  simp only [Bool.and_eq_true, Bool.not_eq_true', decide_eq_false_iff_not]
  constructor
  · rintro ⟨h1, h2⟩
    exact le_antisymm (le_of_not_gt h2) (le_of_not_gt h1)
  · rintro rfl
    exact ⟨lt_irrefl _, lt_irrefl _⟩

theorem veq_iff (a b : Vec α) : veq a b = true ↔ a = b := by
  induction a generalizing b with
  | nil => cases b <;> simp [veq]
  | cons x xs ih => cases b <;> simp [veq, ih]

theorem fmax_eq (a b : α) : fmax a b = max a b := by
  unfold fmax
  split
  · rw [max_eq_right (le_of_lt ‹_›)]
  · rw [max_eq_left (not_lt.1 ‹_›)]

theorem fmin_eq (a b : α) : fmin a b = min a b := by
  unfold fmin
  split
  · rw [min_eq_right (le_of_lt ‹_›)]
  · rw [min_eq_left (not_lt.1 ‹_›)]

theorem clip1_ge {lo hi : α} (h : ¬ hi < lo) (x : α) : ¬ clip1 lo hi x < lo := by
  unfold clip1
  split
  · exact lt_irrefl _
  · split
    · exact h
    · assumption

theorem clip1_le {lo hi : α} (h : ¬ hi < lo) (x : α) : ¬ hi < clip1 lo hi x := by
  unfold clip1
  split
  · exact h
  · split
    · exact lt_irrefl _
    · assumption

theorem clip1_eq_of_eq (lo x : α) : clip1 lo lo x = lo :=
  le_antisymm (not_lt.1 (clip1_le (lt_irrefl lo) x)) (not_lt.1 (clip1_ge (lt_irrefl lo) x))

theorem clip1_of_mem {lo hi x : α} (h1 : ¬ x < lo) (h2 : ¬ hi < x) : clip1 lo hi x = x := by
  rw [clip1, if_neg h1, if_neg h2]

theorem clip1_of_lo_le {l u p : α} (h : l ≤ p) : clip1 l u p = min p u := by
  rw [clip1, if_neg (not_lt.2 h)]
  exact fmin_eq p u

theorem clip1_of_le_hi {l u p : α} (h : p ≤ u) : clip1 l u p = max p l := by
  rw [clip1, if_neg (not_lt.2 h)]
  exact fmax_eq p l

/-- whatever `x` is (rounding included): what C08 `gcp_in_box` and C09 `xbar_in_box` rest on -/
theorem clip_inBox {lb ub : Vec α} (hb : BoxOk lb ub) (x : Vec α) (hx : x.length = lb.length) :
    InBox lb ub (clip x lb ub) := by
  fun_induction BoxOk lb ub generalizing x with
  | case1 =>
    obtain rfl := List.eq_nil_of_length_eq_zero hx
    trivial
  | case2 l ls u us ih =>
    obtain ⟨a, as, rfl⟩ := List.exists_cons_of_length_eq_add_one hx
    exact ⟨⟨clip1_ge hb.1 a, clip1_le hb.1 a⟩, ih hb.2 as (Nat.succ.inj hx)⟩
  | case3 => exact hb.elim

theorem inBox_length {lb ub p : Vec α} (h : InBox lb ub p) : lb.length = p.length ∧ ub.length = p.length := by
  fun_induction InBox lb ub p with
  | case1 => exact ⟨rfl, rfl⟩
  | case2 l ls u us q qs ih => exact ⟨congrArg Nat.succ (ih h.2).1, congrArg Nat.succ (ih h.2).2⟩
  | case3 => exact h.elim

theorem clip_of_inBox {lb ub p : Vec α} (h : InBox lb ub p) : clip p lb ub = p := by
  fun_induction InBox lb ub p with
  | case1 => rfl
  | case2 l ls u us q qs ih => rw [clip_cons, clip1_of_mem h.1.1 h.1.2, ih h.2]
  | case3 => exact h.elim

theorem boxOk_of_inBox {lb ub p : Vec α} (h : InBox lb ub p) : BoxOk lb ub := by
  fun_induction InBox lb ub p with
  | case1 => trivial
  | case2 l ls u us q qs ih => exact ⟨not_lt.2 (le_trans (not_lt.1 h.1.1) (not_lt.1 h.1.2)), ih h.2⟩
  | case3 => exact h.elim

end order

end Lbfgsb
