/-
  The matrices the list model builds for the kernels (`buildW`, `buildMinv`, Model/Kernels.lean) are the block form of
  the compact representation of the stored pairs. Hence (Proofs/CompactBridge.lean, Byrd–Nocedal–Schnabel) the model
  `B = θI − W Mm Wᵀ` of the kernels — `Mm` any left inverse of the matrix of `buildMinv` — is the dense BFGS matrix of the
  pairs and is positive definite when every stored pair has positive curvature: the hypothesis `pd` of the kernel theorems
  (Props/C10Kernel.lean `kernel_matrix_is_bfgs`, Props/C01Curv.lean `kernel_minv_invertible`).
-/
import LbfgsbVerif.Proofs.CompactBridge
import LbfgsbVerif.Props.KernelsBuild

namespace Lbfgsb.CompactKernel
open Matrix Lbfgsb CompactBfgs CompactBridge
variable {K : Type} [Field K]

/-- the pairs of two lists of vectors, as functions on `Fin nn` (oldest first) -/
def pairsOf (nn : Nat) (S Y : List (Vec K)) : List ((Fin nn → K) × (Fin nn → K)) :=
  (S.zip Y).map fun p => (vec nn p.1, vec nn p.2)

theorem pairsOf_length (nn : Nat) (S Y : List (Vec K)) (h : S.length = Y.length) : (pairsOf nn S Y).length = S.length := by
  simp [pairsOf, h]

/-- index `j` of `Smat`, `Ymat` is the `j`-th OLDEST pair of a list kept newest first; stated once for a column family `c`
(`sOf`: `f = fst`, `yOf`: `f = snd`) -/
theorem col_getD {n : Type} (c : (l : List ((n → K) × (n → K))) → Fin l.length → (n → K))
    (f : (n → K) × (n → K) → (n → K))
    (hlast : ∀ p l, c (p :: l) (Fin.last _) = f p) (hcast : ∀ p l (j : Fin l.length), c (p :: l) j.castSucc = c l j)
    (l : List ((n → K) × (n → K))) (j : Nat) (hj : j < l.length) :
    c l ⟨j, hj⟩ = f (l.reverse.getD j (0, 0)) := by
  induction l generalizing j with
  | nil => exact absurd hj (Nat.not_lt_zero _)
  | cons p l' ih =>
    rw [List.reverse_cons]
    by_cases hjl : j = l'.length
    · subst hjl
      rw [List.getD_append_right _ _ _ _ List.length_reverse.le, List.length_reverse, Nat.sub_self]
      exact hlast p l'
    · have hj' : j < l'.length := Nat.lt_of_le_of_ne (Nat.le_of_lt_succ hj) hjl
      rw [List.getD_append _ _ _ _ (hj'.trans_eq List.length_reverse.symm), ← ih j hj']
      exact hcast p l' ⟨j, hj'⟩

theorem sOf_getD {n : Type} [Fintype n] [DecidableEq n] (l : List ((n → K) × (n → K))) (j : Nat) (hj : j < l.length) :
    sOf l ⟨j, hj⟩ = (l.reverse.getD j (0, 0)).1 :=
  col_getD sOf Prod.fst sOf_last sOf_castSucc l j hj

theorem yOf_getD {n : Type} [Fintype n] [DecidableEq n] (l : List ((n → K) × (n → K))) (j : Nat) (hj : j < l.length) :
    yOf l ⟨j, hj⟩ = (l.reverse.getD j (0, 0)).2 :=
  col_getD yOf Prod.snd yOf_last yOf_castSucc l j hj

theorem pairsOf_getD (nn : Nat) (S Y : List (Vec K)) (h : S.length = Y.length) (j : Nat) (hj : j < S.length) :
    (pairsOf nn S Y).getD j (0, 0) = (vec nn (S.getD j []), vec nn (Y.getD j [])) :=
  getD_zip_map _ S Y j [] [] _ hj (h ▸ hj)

variable [LinearOrder K] [IsStrictOrderedRing K]

section bridge
variable (nn : Nat) (θ : K) (S Y : List (Vec K))

/-- the stored pairs newest first, as the bordering of Proofs/CompactBfgs consumes them; `2 * (lOf nn S Y).length`, written as a sum,
is the size of the middle matrix in every statement about `buildW`, `buildMinv` -/
abbrev lOf : List ((Fin nn → K) × (Fin nn → K)) := (pairsOf nn S Y).reverse

theorem lOf_length (h : S.length = Y.length) : (lOf nn S Y).length = S.length := by
  rw [List.length_reverse, pairsOf_length nn S Y h]

theorem sOf_lOf (h : S.length = Y.length) (j : Fin (lOf nn S Y).length) : sOf (lOf nn S Y) j = vec nn (S.getD j []) := by
  have hj : (j : Nat) < S.length := j.2.trans_eq (lOf_length nn S Y h)
  rw [sOf_getD (lOf nn S Y) j j.2, List.reverse_reverse, pairsOf_getD nn S Y h j hj]

theorem yOf_lOf (h : S.length = Y.length) (j : Fin (lOf nn S Y).length) : yOf (lOf nn S Y) j = vec nn (Y.getD j []) := by
  have hj : (j : Nat) < S.length := j.2.trans_eq (lOf_length nn S Y h)
  rw [yOf_getD (lOf nn S Y) j j.2, List.reverse_reverse, pairsOf_getD nn S Y h j hj]

theorem buildW_block (h : S.length = Y.length) (r : Fin nn) (c : Fin (lOf nn S Y).length ⊕ Fin (lOf nn S Y).length) :
    wmat nn ((lOf nn S Y).length + (lOf nn S Y).length) (buildW nn θ S Y) r (finSumFinEquiv c) =
      Compact.W (Smat (lOf nn S Y)) (Ymat (lOf nn S Y)) θ r c := by
  have hm := lOf_length nn S Y h
  unfold wmat buildW
  rw [getD_map_range _ _ _ _ r.2]
  cases c with
  | inl j =>
    have hj : (j : Nat) < Y.length := j.2.trans_eq (hm.trans h)
    rw [finSumFinEquiv_apply_left, Fin.coe_castAdd, List.getD_append _ _ _ _ (by rwa [List.length_map]),
      getD_map (fun y => y.getD r 0) Y [] j hj]
    simp only [Compact.W_inl, Ymat, of_apply]
    rw [yOf_lOf nn S Y h j]
    rfl
  | inr j =>
    have hj : (j : Nat) < S.length := j.2.trans_eq hm
    have hlen : (List.map (fun y => y.getD (↑r) 0) Y).length = (lOf nn S Y).length := by
      rw [List.length_map, ← h, hm]
    rw [finSumFinEquiv_apply_right, Fin.coe_natAdd, List.getD_append_right _ _ _ _ (hlen.le.trans (Nat.le_add_right _ _))]
    have e : (lOf nn S Y).length + (j : Nat) - (List.map (fun y => y.getD (↑r) 0) Y).length = j := by
      rw [hlen, Nat.add_sub_cancel_left]
    rw [e, getD_map (fun s => θ * s.getD r 0) S [] j hj]
    simp only [Compact.W_inr, Smat, of_apply]
    rw [sOf_lOf nn S Y h j]
    rfl

theorem buildMinv_block (h : S.length = Y.length)
    (hS : ∀ j, j < S.length → (S.getD j []).length = nn) (hY : ∀ j, j < S.length → (Y.getD j []).length = nn)
    (c d : Fin (lOf nn S Y).length ⊕ Fin (lOf nn S Y).length) :
    wmat ((lOf nn S Y).length + (lOf nn S Y).length) ((lOf nn S Y).length + (lOf nn S Y).length) (buildMinv θ S Y)
        (finSumFinEquiv c) (finSumFinEquiv d) =
      Compact.N (Smat (lOf nn S Y)) (Ymat (lOf nn S Y)) θ c d := by
  have hm := lOf_length nn S Y h
  rw [N_eq_Nent]
  unfold wmat
  have hb : ∀ x : Fin ((lOf nn S Y).length + (lOf nn S Y).length), (x : Nat) < 2 * S.length := by
    intro x
    have := x.2
    omega
  rw [buildMinv_entry θ S Y _ _ (hb _) (hb _)]
  unfold minvEntry
  dsimp only
  -- the first half of `Fin (m + m)` is below `m = S.length`, the second half is `m + i`
  have hlt : ∀ i : Fin (lOf nn S Y).length, (i : Nat) < S.length := fun i => hm ▸ i.2
  have hge : ∀ i : Fin (lOf nn S Y).length, ¬ (lOf nn S Y).length + (i : Nat) < S.length := fun i => by omega
  have hsub : ∀ i : Fin (lOf nn S Y).length, (lOf nn S Y).length + (i : Nat) - S.length = i := fun i => by omega
  cases c with
  | inl i =>
    rw [finSumFinEquiv_apply_left, Fin.coe_castAdd, if_pos (hlt i)]
    cases d with
    | inl j =>
      rw [finSumFinEquiv_apply_left, Fin.coe_castAdd, if_pos (hlt j)]
      simp only [Nent, sOf_lOf nn S Y h, yOf_lOf nn S Y h]
      rw [dot_vec nn _ _ (hS i (hlt i)) (hY i (hlt i))]
      simp only [Fin.ext_iff]
    | inr j =>
      rw [finSumFinEquiv_apply_right, Fin.coe_natAdd, if_neg (hge j), hsub j]
      simp only [Nent, sOf_lOf nn S Y h, yOf_lOf nn S Y h]
      rw [dot_vec nn _ _ (hS j (hlt j)) (hY i (hlt i))]
      simp only [Fin.lt_def, gt_iff_lt]
  | inr i =>
    rw [finSumFinEquiv_apply_right, Fin.coe_natAdd, if_neg (hge i), hsub i]
    cases d with
    | inl j =>
      rw [finSumFinEquiv_apply_left, Fin.coe_castAdd, if_pos (hlt j)]
      simp only [Nent, sOf_lOf nn S Y h, yOf_lOf nn S Y h]
      rw [dot_vec nn _ _ (hS i (hlt i)) (hY j (hlt j))]
      simp only [Fin.lt_def, gt_iff_lt]
    | inr j =>
      rw [finSumFinEquiv_apply_right, Fin.coe_natAdd, if_neg (hge j), hsub j]
      simp only [Nent, sOf_lOf nn S Y h]
      rw [dot_vec nn _ _ (hS i (hlt i)) (hS j (hlt j))]

theorem pairsOf_curv (h : S.length = Y.length)
    (hcurv : ∀ j, j < S.length → vec nn (S.getD j []) ≠ 0 ∧ 0 < vec nn (S.getD j []) ⬝ᵥ vec nn (Y.getD j [])) :
    ∀ p ∈ pairsOf nn S Y, p.1 ≠ 0 ∧ 0 < p.1 ⬝ᵥ p.2 := by
  intro p hpm
  obtain ⟨j, hj, rfl⟩ := List.mem_iff_getElem.mp hpm
  have hjS : j < S.length := hj.trans_eq (pairsOf_length nn S Y h)
  rw [← List.getD_eq_getElem _ (0, 0) hj, pairsOf_getD nn S Y h j hjS]
  exact hcurv j hjS

theorem W_eq_buildW (h : S.length = Y.length) :
    Compact.W (Smat (lOf nn S Y)) (Ymat (lOf nn S Y)) θ =
      (wmat nn ((lOf nn S Y).length + (lOf nn S Y).length) (buildW nn θ S Y)).submatrix id finSumFinEquiv := by
  funext r c
  rw [submatrix_apply]
  exact (buildW_block nn θ S Y h r c).symm

theorem N_eq_buildMinv (h : S.length = Y.length)
    (hS : ∀ j, j < S.length → (S.getD j []).length = nn) (hY : ∀ j, j < S.length → (Y.getD j []).length = nn) :
    Compact.N (Smat (lOf nn S Y)) (Ymat (lOf nn S Y)) θ =
      (wmat ((lOf nn S Y).length + (lOf nn S Y).length) ((lOf nn S Y).length + (lOf nn S Y).length)
        (buildMinv θ S Y)).submatrix finSumFinEquiv finSumFinEquiv := by
  funext c d
  rw [submatrix_apply]
  exact (buildMinv_block nn θ S Y h hS hY c d).symm

end bridge

end Lbfgsb.CompactKernel
