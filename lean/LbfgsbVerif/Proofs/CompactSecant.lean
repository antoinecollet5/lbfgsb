/-
  The compact representation `B = θ I − W N⁻¹ Wᵀ`, `W = [Y  θS]`,
  `N = [[−D, Lᵀ], [L, θ SᵀS]]` (`D` the diagonal and `L` the strictly lower part of `SᵀY`)
  satisfies the secant equation of the NEWEST pair, `B s = y`, whenever `N` is invertible — a
  direct computation (any field): `Wᵀ s = N (e₂ − e₁)` for the unit vectors of the newest pair.
  `compactB_mulVec`, `compactB_quad`: the product and the quadratic form of `θ I − W M Wᵀ` for any `W`, `M`.
-/
import Mathlib.Data.Matrix.ColumnRowPartitioned

namespace Lbfgsb.Compact
open Matrix

variable {n ι K : Type} [Fintype n] [Fintype ι] [DecidableEq n] [DecidableEq ι] [LinearOrder ι] [Field K]

def A (S Y : Matrix n ι K) : Matrix ι ι K := Sᵀ * Y
def D (S Y : Matrix n ι K) : Matrix ι ι K := Matrix.diagonal fun i => A S Y i i
def L (S Y : Matrix n ι K) : Matrix ι ι K := Matrix.of fun i j => if j < i then A S Y i j else 0
/-- the middle matrix (inverse of `M`) -/
def N (S Y : Matrix n ι K) (θ : K) : Matrix (ι ⊕ ι) (ι ⊕ ι) K :=
  Matrix.fromBlocks (-(D S Y)) (L S Y)ᵀ (L S Y) (θ • (Sᵀ * S))
def W (S Y : Matrix n ι K) (θ : K) : Matrix n (ι ⊕ ι) K := Matrix.fromCols Y (θ • S)

theorem W_inl (S Y : Matrix n ι K) (θ : K) (r : n) (j : ι) : W S Y θ r (.inl j) = Y r j := rfl

theorem W_inr (S Y : Matrix n ι K) (θ : K) (r : n) (j : ι) : W S Y θ r (.inr j) = θ * S r j := rfl

theorem compactB_mulVec {κ : Type} [Fintype κ] (θ : K) (W : Matrix n κ K) (M : Matrix κ κ K) (z : n → K) :
    (θ • (1 : Matrix n n K) - W * M * Wᵀ) *ᵥ z = θ • z - W *ᵥ (M *ᵥ (Wᵀ *ᵥ z)) := by
  rw [sub_mulVec, smul_mulVec, one_mulVec, ← mulVec_mulVec, ← mulVec_mulVec]

theorem compactB_quad {κ : Type} [Fintype κ] (θ : K) (W : Matrix n κ K) (M : Matrix κ κ K) (a : n → K) :
    a ⬝ᵥ ((θ • (1 : Matrix n n K) - W * M * Wᵀ) *ᵥ a) = θ * (a ⬝ᵥ a) - (Wᵀ *ᵥ a) ⬝ᵥ (M *ᵥ (Wᵀ *ᵥ a)) := by
  rw [compactB_mulVec, dotProduct_sub, dotProduct_smul, smul_eq_mul, dotProduct_mulVec, ← mulVec_transpose]

theorem Wt_mulVec_newest (S Y : Matrix n ι K) (θ : K) (j0 : ι) (hmax : ∀ i, i ≤ j0) :
    (W S Y θ)ᵀ *ᵥ (fun k => S k j0) =
      N S Y θ *ᵥ Sum.elim (-Pi.single j0 1) (Pi.single j0 1) := by
  have hs : (fun k => S k j0) = S *ᵥ Pi.single j0 1 := by
    rw [mulVec_single_one]
    rfl
  have hYS : Yᵀ * S = (A S Y)ᵀ := by rw [A, transpose_mul, transpose_transpose]
  rw [W, transpose_fromCols, fromRows_mulVec, N, fromBlocks_mulVec, Sum.elim_comp_inl, Sum.elim_comp_inr,
    mulVec_neg, mulVec_neg, neg_mulVec, neg_neg, transpose_smul, smul_mulVec, smul_mulVec, hs, mulVec_mulVec, mulVec_mulVec,
    hYS, mulVec_single_one, mulVec_single_one, mulVec_single_one, mulVec_single_one, mulVec_single_one]
  congr 1 <;> funext i
  · -- column `j0` of `D + Lᵀ` is row `j0` of `SᵀY`: every index is `≤ j0`
    simp only [Pi.add_apply, col_apply, transpose_apply, D, diagonal_apply, L, of_apply]
    rcases (hmax i).eq_or_lt with rfl | hlt
    · rw [if_pos rfl, if_neg (lt_irrefl _), add_zero]
    · rw [if_neg hlt.ne, if_pos hlt, zero_add]
  · -- column `j0` of `L` vanishes: no index is `> j0`
    simp only [Pi.add_apply, Pi.neg_apply, Pi.smul_apply, col_apply, L, of_apply, if_neg (not_lt.2 (hmax i)), neg_zero, zero_add]

theorem compact_secant (S Y : Matrix n ι K) (θ : K) (Ninv : Matrix (ι ⊕ ι) (ι ⊕ ι) K)
    (hN : Ninv * N S Y θ = 1) (j0 : ι) (hmax : ∀ i, i ≤ j0) :
    (θ • (1 : Matrix n n K) - W S Y θ * Ninv * (W S Y θ)ᵀ) *ᵥ (fun k => S k j0) = fun k => Y k j0 := by
  have h1 : Ninv *ᵥ ((W S Y θ)ᵀ *ᵥ (fun k => S k j0)) = Sum.elim (-Pi.single j0 1) (Pi.single j0 1) := by
    rw [Wt_mulVec_newest S Y θ j0 hmax, mulVec_mulVec, hN, one_mulVec]
  rw [compactB_mulVec, h1, W, fromCols_mulVec_sumElim, mulVec_neg, smul_mulVec, mulVec_single_one, mulVec_single_one]
  funext k
  simp only [Pi.sub_apply, Pi.add_apply, Pi.neg_apply, Pi.smul_apply, col_apply, smul_eq_mul]
  ring

end Lbfgsb.Compact
