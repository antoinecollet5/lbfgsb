/-
  Helper lemmas about `Model/Basic.lean` that need Mathlib's order and algebra library (level F). Over a linear order:
  `InBoxF`, the comparing operations commute with strictly monotone maps, the running minimum by its bounds. Over a
  commutative ring: `dot` is a sum, a zero multiple moves nothing. Over an ordered field: `fabs` is the modulus, `maxAbs`
  by its bounds.
-/
import LbfgsbVerif.Proofs.Basic
import Mathlib.Algebra.Order.Field.Basic
import Mathlib.Tactic.Ring

namespace Lbfgsb

section inBoxF
variable {α : Type} [LinearOrder α]

/-- `lb ≤ p ≤ ub` with `≤` (all the same length). Defined in this file and not next to `InBox`: the fixed statements that
  mention it were elaborated with Mathlib's lattice instances in scope, and its `≤` has to be found through the same
  instances to be the same term. -/
def InBoxF : Vec α → Vec α → Vec α → Prop
  | [], [], [] => True
  | l :: ls, u :: us, p :: ps => (l ≤ p ∧ p ≤ u) ∧ InBoxF ls us ps
  | _, _, _ => False

theorem inBoxF_iff_inBox {lb ub p : Vec α} : InBoxF lb ub p ↔ InBox lb ub p := by
  fun_induction InBoxF lb ub p with
  | case1 => exact Iff.rfl
  | case2 l ls u us q qs ih => exact and_congr (and_congr not_lt.symm not_lt.symm) ih
  | case3 lb ub p h1 h2 => rw [InBox.eq_3 _ _ _ h1 h2]

theorem inBoxF_lengths {lb ub p : Vec α} (h : InBoxF lb ub p) : lb.length = p.length ∧ ub.length = p.length :=
  inBox_length (inBoxF_iff_inBox.1 h)

end inBoxF

section coordinates
variable {K : Type} [Zero K] [LinearOrder K]

theorem inBoxF_getD {lb ub p : Vec K} (h : InBoxF lb ub p) (j : Nat) (hj : j < p.length) :
    lb.getD j 0 ≤ p.getD j 0 ∧ p.getD j 0 ≤ ub.getD j 0 := by
  fun_induction InBoxF lb ub p generalizing j with
  | case1 => exact absurd hj (Nat.not_lt_zero _)
  | case2 l ls u us q qs ih =>
    cases j with
    | zero => exact h.1
    | succ j => exact ih h.2 j (Nat.lt_of_succ_lt_succ hj)
  | case3 => exact h.elim

theorem inBoxF_of_pointwise (n : Nat) (lb ub p : Vec K) (hl : lb.length = n) (hu : ub.length = n) (hp : p.length = n)
    (h : ∀ j, j < n → lb.getD j 0 ≤ p.getD j 0 ∧ p.getD j 0 ≤ ub.getD j 0) : InBoxF lb ub p := by
  induction n generalizing lb ub p with
  | zero =>
    obtain rfl := List.eq_nil_of_length_eq_zero hl
    obtain rfl := List.eq_nil_of_length_eq_zero hu
    obtain rfl := List.eq_nil_of_length_eq_zero hp
    trivial
  | succ n ih =>
    obtain ⟨l, ls, rfl⟩ := List.exists_cons_of_length_eq_add_one hl
    obtain ⟨u, us, rfl⟩ := List.exists_cons_of_length_eq_add_one hu
    obtain ⟨q, qs, rfl⟩ := List.exists_cons_of_length_eq_add_one hp
    exact ⟨h 0 (Nat.succ_pos n),
      ih ls us qs (Nat.succ.inj hl) (Nat.succ.inj hu) (Nat.succ.inj hp) fun j hj => h (j + 1) (Nat.succ_lt_succ hj)⟩

end coordinates

/-! ### a strictly monotone map (a translation, a positive rescaling) commutes with everything that compares -/
section mono
variable {α : Type} [LinearOrder α] {φ : α → α}

theorem feq_map (hφ : StrictMono φ) (x y : α) : feq (φ x) (φ y) = feq x y := by
  simp only [feq, hφ.lt_iff_lt]

theorem clip1_map (hφ : StrictMono φ) (l u x : α) : clip1 (φ l) (φ u) (φ x) = φ (clip1 l u x) := by
  simp only [clip1, hφ.lt_iff_lt, apply_ite φ]

theorem fmax_map (hφ : StrictMono φ) (a b : α) : fmax (φ a) (φ b) = φ (fmax a b) := by
  simp only [fmax, hφ.lt_iff_lt, apply_ite φ]

theorem clip_map (hφ : StrictMono φ) : ∀ p lb ub : Vec α, clip (p.map φ) (lb.map φ) (ub.map φ) = (clip p lb ub).map φ
  | [], _, _ => rfl
  | _ :: _, [], _ => rfl
  | _ :: _, _ :: _, [] => rfl
  | x :: xs, l :: ls, u :: us => by simp only [List.map_cons, clip, clip1_map hφ, clip_map hφ xs ls us]

theorem inBoxF_map (hφ : StrictMono φ) (lb ub p : Vec α) (h : InBoxF lb ub p) : InBoxF (lb.map φ) (ub.map φ) (p.map φ) := by
  fun_induction InBoxF lb ub p with
  | case1 => trivial
  | case2 l ls u us q qs ih => exact ⟨⟨hφ.monotone h.1.1, hφ.monotone h.1.2⟩, ih h.2⟩
  | case3 => exact h.elim

end mono

section ring
variable {K : Type} [CommRing K]

theorem dot_eq_sum (x y : Vec K) : dot x y = (List.zipWith (· * ·) x y).sum := by
  rw [dot, vzip_eq_zipWith, List.sum_eq_foldl]

theorem dot_nil_right (v : Vec K) : dot v [] = 0 := by
  rw [dot_eq_sum, List.zipWith_nil_right, List.sum_nil]

theorem dot_cons (x y : K) (xs ys : Vec K) : dot (x :: xs) (y :: ys) = x * y + dot xs ys := by
  rw [dot_eq_sum, dot_eq_sum, List.zipWith_cons_cons, List.sum_cons]

theorem dot_comm (a b : Vec K) : dot a b = dot b a := by
  rw [dot_eq_sum, dot_eq_sum, List.zipWith_comm_of_comm (fun x y => mul_comm x y)]

theorem dot_smul_left (c : K) : ∀ u v : Vec K, dot (smul c u) v = c * dot u v
  | [], _ => (mul_zero c).symm
  | _ :: _, [] => by rw [dot_nil_right, dot_nil_right, mul_zero]
  | x :: xs, y :: ys => by rw [smul_cons, dot_cons, dot_cons, dot_smul_left c xs ys, mul_add, mul_assoc]

theorem dot_zeros (w c : Vec K) : dot w (c.map fun _ => (0 : K)) = 0 := by
  have h : (c.map fun _ => (0 : K)) = smul 0 c := List.map_congr_left fun a _ => (zero_mul a).symm
  rw [h, dot_comm, dot_smul_left, zero_mul]

theorem dot_smul_smul (c d : K) (u v : Vec K) : dot (smul c u) (smul d v) = c * d * dot u v := by
  rw [dot_smul_left, dot_comm, dot_smul_left, dot_comm, mul_assoc]

theorem smul_one' (d : Vec K) : smul 1 d = d := by
  simp only [smul, one_mul, List.map_id']

theorem smul_smul_vec (a b : K) (v : Vec K) : smul a (smul b v) = smul (a * b) v := by
  simp only [smul, List.map_map, Function.comp_def, mul_assoc]

theorem vsub_smul (c : K) (u v : Vec K) : vsub (smul c u) (smul c v) = smul c (vsub u v) :=
  vzip_map (fun a b => (mul_sub c a b).symm) u v

theorem getD_map_zero (f : K → K) (hf : f 0 = 0) (l : List K) (j : Nat) : (l.map f).getD j 0 = f (l.getD j 0) := by
  rw [List.getD_eq_getElem?_getD, List.getElem?_map, List.getD_eq_getElem?_getD]
  cases l[j]? with
  | none => exact hf.symm
  | some _ => rfl

theorem getD_smul (c : K) (v : List K) (j : Nat) : (smul c v).getD j 0 = c * v.getD j 0 :=
  getD_map_zero (c * ·) (mul_zero c) v j

theorem vzip_smul_zero (f : K → K → K) (hf : ∀ a b : K, f a (0 * b) = a) (x d : Vec K) (h : d.length = x.length) :
    vzip f x (smul 0 d) = x := by
  have hl : (vzip f x (smul 0 d)).length = x.length := by rw [vzip_length, smul_length, h, Nat.min_self]
  refine ext_getD 0 hl fun j hj => ?_
  rw [hl] at hj
  rw [smul, getD_vzip f x _ 0 j hj ((List.length_map ..).symm ▸ h.symm ▸ hj), getD_map _ _ 0 j (h.symm ▸ hj), hf]

theorem vadd_smul_zero (x d : Vec K) (h : d.length = x.length) : vadd x (smul 0 d) = x :=
  vzip_smul_zero _ (fun a b => by rw [zero_mul, add_zero]) x d h

theorem vsub_smul_zero (x d : Vec K) (h : d.length = x.length) : vsub x (smul 0 d) = x :=
  vzip_smul_zero _ (fun a b => by rw [zero_mul, sub_zero]) x d h

end ring

section fmin
variable {α : Type} [LinearOrder α]

theorem le_foldl_fmin_iff (l : List α) (a c : α) : c ≤ l.foldl fmin a ↔ c ≤ a ∧ ∀ t ∈ l, c ≤ t := by
  induction l generalizing a with
  | nil => exact (and_iff_left (List.forall_mem_nil _)).symm
  | cons b bs ih => rw [List.foldl_cons, ih, fmin_eq, le_min_iff, List.forall_mem_cons, and_assoc]

end fmin

section field
variable {K : Type} [Field K] [LinearOrder K] [IsStrictOrderedRing K]

theorem fabs_eq (a : K) : fabs a = |a| := by
  unfold fabs
  split
  · rw [abs_of_neg ‹_›]
  · rw [abs_of_nonneg (not_lt.1 ‹_›)]

theorem foldl_fmax_fabs_le_iff (v : Vec K) (acc c : K) :
    v.foldl (fun acc a => fmax acc (fabs a)) acc ≤ c ↔ acc ≤ c ∧ ∀ a ∈ v, |a| ≤ c := by
  induction v generalizing acc with
  | nil => exact (and_iff_left (List.forall_mem_nil _)).symm
  | cons b bs ih => rw [List.foldl_cons, ih, fmax_eq, fabs_eq, max_le_iff, List.forall_mem_cons, and_assoc]

theorem maxAbs_le_iff (v : Vec K) (c : K) : maxAbs v ≤ c ↔ 0 ≤ c ∧ ∀ a ∈ v, |a| ≤ c :=
  foldl_fmax_fabs_le_iff v 0 c

theorem maxAbs_nonneg (v : Vec K) : 0 ≤ maxAbs v := ((maxAbs_le_iff v _).1 le_rfl).1

theorem maxAbs_eq_zero_iff (v : Vec K) : maxAbs v = 0 ↔ ∀ a ∈ v, a = 0 := by
  rw [← (maxAbs_nonneg v).ge_iff_eq', maxAbs_le_iff]
  simp only [le_refl, true_and, abs_nonpos_iff]

end field

end Lbfgsb
