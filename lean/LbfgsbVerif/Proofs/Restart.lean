/-
  C06: a restart that performs no iteration — checkpoint `ck`, `maxiter ≤ ck.nit`, no scaler, no
  update function, no target — returns the history `initialize_X_and_G` rebuilds followed by the
  re-insertion of the current point (level U + `a·1 = a`); and, in an additive group, the memory a restart rebuilds from
  the pairs of a state whose point ends its stored history IS that history.
-/
import LbfgsbVerif.Proofs.Walk
import LbfgsbVerif.Props.C06

namespace Lbfgsb
variable {α ε δ : Type}
variable [LinearOrder α] [Add α] [Sub α] [Mul α] [Div α] [Neg α] [OfNat α 0] [OfNat α 1] [FloatLike α]

theorem initEval_plain {u : User α ε} {c : Cfg α} {a : α} (hT : c.ftarget = none)
    (hg : c.gtol = .const a) {i : Init α} (h : initEval u c = .ok i) :
    ∃ sf f0, firstEval u c = .ok (sf, f0) ∧
      i = { x := clip c.x0 c.lb c.ub,
            X := (match c.checkpoint with
              | none => ([], [])
              | some ck => restoreXG (clip c.x0 c.lb c.ub) ck.jac ck.sk ck.yk c.maxcor).1,
            G := (match c.checkpoint with
              | none => ([], [])
              | some ck => restoreXG (clip c.x0 c.lb c.ub) ck.jac ck.sk ck.yk c.maxcor).2,
            sf := sf, f0 := f0, ftarget := none, gtol := a,
            nit := match c.checkpoint with | none => 0 | some ck => ck.nit } := by
  obtain ⟨sf0, sf1, sf2, he, ht, hgt, e⟩ := initEval_ok h
  obtain ⟨-, rfl, hft⟩ := (evalFtarget_ok ht).resolve_right fun ⟨_, _, h', _⟩ => nomatch hT.symm.trans h'
  rw [hg] at hgt
  obtain ⟨rfl, rfl⟩ := Prod.mk.inj (pure_ok.1 hgt)
  exact ⟨sf1, i.f0, he, hft ▸ e⟩

theorem prepare_plain {u : User α ε} {c : Cfg α} (hS : c.hasScaler = false)
    (hU : c.hasUpdate = false) {i : Init α} {s : St α} (h : prepare u c i = .ok s) :
    ∃ sf g, firstGrad u c i = .ok (sf, g) ∧
      s = initMemory c { i.state with sf := sf, f := i.f0 * sf.scale, g := vscale g sf.scale } := by
  obtain ⟨sf, g, s1, s2, he, h1, h2, rfl⟩ := prepare_ok h
  obtain ⟨-, rfl⟩ := (applyScaler_ok h1).resolve_right fun ⟨_, h', _⟩ => absurd (hS.symm.trans h') Bool.false_ne_true
  obtain ⟨-, rfl⟩ := (applyUpdate0_ok h2).resolve_right fun ⟨_, h', _⟩ => absurd (hU.symm.trans h') Bool.false_ne_true
  exact ⟨sf, g, he, rfl⟩

theorem initEval_restart (u : User α ε) (c : Cfg α) (ck : Result α) (hck : c.checkpoint = some ck)
    (hT : c.ftarget = none) (i : Init α) (h : initEval u c = .ok i) :
    i.x = clip c.x0 c.lb c.ub ∧
    (i.X, i.G) = restoreXG (clip c.x0 c.lb c.ub) ck.jac ck.sk ck.yk c.maxcor ∧
    i.nit = ck.nit ∧ i.ftarget = none ∧ i.sf.scale = 1 ∧ i.f0 = ck.f := by
  obtain ⟨sf0, sf1, sf2, he, ht, hgt, e⟩ := initEval_ok h
  obtain ⟨ck', hck', hf, rfl⟩ := (firstEval_ok he).resolve_left fun h' => nomatch h'.1.symm.trans hck
  obtain rfl : ck' = ck := Option.some.inj (hck'.symm.trans hck)
  obtain ⟨-, rfl, hft⟩ := (evalFtarget_ok ht).resolve_right fun ⟨_, _, h', _⟩ => nomatch hT.symm.trans h'
  obtain ⟨d, rfl, -⟩ := evalThresh_eq hgt
  rw [e, hck]
  exact ⟨rfl, rfl, rfl, hft, rfl, hf⟩

theorem prepare_restart (u : User α ε) (c : Cfg α) (ck : Result α) (hck : c.checkpoint = some ck)
    (hS : c.hasScaler = false) (hU : c.hasUpdate = false) (hmul1 : ∀ a : α, a * 1 = a)
    (i : Init α) (hsc : i.sf.scale = 1) (s : St α) (h : prepare u c i = .ok s) :
    s = initMemory c { i.state with sf := i.sf, f := i.f0, g := ck.jac } := by
  obtain ⟨sf, g, he, rfl⟩ := prepare_plain hS hU h
  obtain ⟨ck', hck', rfl, rfl⟩ := (firstGrad_ok he).resolve_left fun h' => nomatch h'.1.symm.trans hck
  cases hck.symm.trans hck'
  rw [hsc, vscale_one hmul1, hmul1]

theorem minimize_restart_noiter (u : User α ε) (o : Oracles α δ) (c : Cfg α) (ck : Result α)
    (hck : c.checkpoint = some ck) (hT : c.ftarget = none) (hS : c.hasScaler = false)
    (hU : c.hasUpdate = false) (hmul1 : ∀ a : α, a * 1 = a) (hnit : c.maxiter ≤ ck.nit)
    (r : Result α) (s : St α) (h : minimize u o c = .ok (r, s)) :
    let x := clip c.x0 c.lb c.ub
    let R := restoreXG x ck.jac ck.sk ck.yk c.maxcor
    let m := updateMats x ck.jac R.1 R.2 c.maxcor none c.epsSY
    r.x = x ∧ r.nit = ck.nit ∧
      r.sk = diffs (if R.1.length > 0 then m.1 else [x]) ∧
      r.yk = diffs (if R.1.length > 0 then m.2.1 else [ck.jac]) := by
  intro x R m
  obtain ⟨i, hi, hcase⟩ := minimize_ok.1 h
  obtain ⟨hx, hXG, hn, hft, hsc, hf0⟩ := initEval_restart u c ck hck hT i hi
  obtain ⟨ht, -⟩ | ⟨-, s0, s1, hs0, hs1, rfl, rfl⟩ := hcase
  · rw [hft] at ht
    exact absurd ht Bool.false_ne_true
  have hs0' := prepare_restart u c ck hck hS hU hmul1 i hsc s0 hs0
  have hnit0 : s0.nit = ck.nit := by
    rw [hs0']
    unfold initMemory
    split <;> exact hn
  -- no fuel: the loop returns the prepared state, which the classification changes in its report fields only
  rw [hnit0, Nat.sub_eq_zero_of_le hnit, mainLoop, pure_ok] at hs1
  subst hs1
  obtain ⟨t, su, w, e⟩ := classify_eq c s0
  rw [e, hs0']
  have hX : i.X = R.1 := congrArg Prod.fst hXG
  have hG : i.G = R.2 := congrArg Prod.snd hXG
  unfold initMemory
  simp only [Init.state, hX, hG, hx]
  split
  · exact ⟨rfl, hn, rfl, rfl⟩
  · exact ⟨rfl, hn, rfl, rfl⟩

end Lbfgsb

namespace Lbfgsb
variable {α : Type} [AddCommGroup α] [Mul α] [LT α] [DecidableLT α]

/-- what `initialize_X_and_G` followed by the re-insertion of the current point yields -/
def restartMemory (x g : Vec α) (sk yk : List (Vec α)) (maxcor : Nat) (eps : α) :
    List (Vec α) × List (Vec α) × Mats α :=
  let R := restoreXG x g sk yk maxcor
  if R.1.length > 0 then
    let m := updateMats x g R.1 R.2 maxcor none eps
    (m.1, m.2.1, m.2.2.1)
  else ([x], [g], none)

theorem initMemory_restart (c : Cfg α) (s : St α) (sk yk : List (Vec α)) (hm : s.mats = none)
    (hX : s.X = (restoreXG s.x s.g sk yk c.maxcor).1) (hG : s.G = (restoreXG s.x s.g sk yk c.maxcor).2) :
    initMemory c s = { s with X := (restartMemory s.x s.g sk yk c.maxcor c.epsSY).1,
                              G := (restartMemory s.x s.g sk yk c.maxcor c.epsSY).2.1,
                              mats := (restartMemory s.x s.g sk yk c.maxcor c.epsSY).2.2 } := by
  unfold initMemory restartMemory
  rw [hX, hG, hm]
  by_cases hpos : (restoreXG s.x s.g sk yk c.maxcor).1.length > 0
  · simp only [hpos, if_true]
  · simp only [hpos, if_false]

theorem restoreXG_of_history (X' G' : List (Vec α)) (x g : Vec α) (maxcor : Nat)
    (hX : AllLen x.length (X' ++ [x])) (hG : AllLen g.length (G' ++ [g])) (hlen : X'.length = G'.length)
    (hne : X' ≠ []) (hb : X'.length ≤ maxcor) :
    restoreXG x g (diffs (X' ++ [x])) (diffs (G' ++ [g])) maxcor = (X', G') := by
  have hl : ∀ (P : List (Vec α)) (p : Vec α), (diffs (P ++ [p])).length = P.length := by
    intro P p
    rw [diffs_length, List.length_append, List.length_singleton, Nat.add_sub_cancel]
  have hd : diffs (X' ++ [x]) ≠ [] := ne_nil_of_length_eq (hl X' x).symm hne
  rw [restoreXG_of_ne_nil x g _ maxcor hd, List.append_cancel_right (C06.restore_roundtrip X' x hX),
    List.append_cancel_right (C06.restore_roundtrip G' g hG), hl, hl, ← hlen,
    Nat.sub_eq_zero_of_le (Nat.le_succ_of_le hb)]
  rfl

/-- **the restart holds the memory of the run** -/
theorem restartMemory_of_history (X' G' : List (Vec α)) (x g : Vec α) (maxcor : Nat) (eps : α)
    (hX : AllLen x.length (X' ++ [x])) (hG : AllLen g.length (G' ++ [g])) (hlen : X'.length = G'.length)
    (hb : X'.length ≤ maxcor)
    (hcurv : X' ≠ [] → curvOk x g (lastD X') (lastD G') eps = true) :
    restartMemory x g (diffs (X' ++ [x])) (diffs (G' ++ [g])) maxcor eps =
      (X' ++ [x], G' ++ [g], if (X' ++ [x]).length > 1 then some (X' ++ [x], G' ++ [g]) else none) := by
  rw [restartMemory]
  by_cases hne : X' = []
  · subst hne
    obtain rfl : G' = [] := List.length_eq_zero_iff.1 hlen.symm
    rfl
  · have hpos : 0 < X'.length := List.length_pos_iff.2 hne
    have hlong : (X' ++ [x]).length > 1 := by
      rw [List.length_append, List.length_singleton]
      exact Nat.succ_lt_succ hpos
    rw [restoreXG_of_history X' G' x g maxcor hX hG hlen hne hb]
    dsimp only
    rw [if_pos hpos, updateMats_accept x g X' G' maxcor none eps (hcurv hne),
      if_neg (Nat.not_lt.2 hb), if_pos hlong]
    rfl

end Lbfgsb
