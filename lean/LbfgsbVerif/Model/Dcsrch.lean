/-
  Executable model of SciPy's pure-Python Moré–Thuente stepper
  `scipy.optimize._dcsrch.DCSRCH._iterate` + `dcstep` (the line search the package drives from
  `lbfgsb/linesearch.py` when SciPy ≥ 1.12), statement by statement, same operand order.

  The driver model (`Model/Shell.lean`) treats this stepper as an oracle (`Oracles.dcIter`);
  this file makes the oracle concrete, so that
    * the correspondence check can compare it bit for bit with every recorded call of the real
      stepper (driver command `dcsrch`), and
    * the contract the C11 theorems rely on — every step proposed for evaluation lies in
      `[0, stpmax]` (not `[stpmin, stpmax]`: when no progress is possible `project` falls back on the best step `stx`,
      which is `0`, below `stpmin`, while no trial has improved on the start) — becomes a theorem
      (`Props/C11.lean: dcsrch_steps_in_range`).

  Scalar operations that are not core classes (`** 2`, IEEE `<=` and `==`, which differ from
  `¬ >` and `¬ < ∧ ¬ >` on NaN) are collected in `DcOps`.
-/
import LbfgsbVerif.Model.Basic
import LbfgsbVerif.Model.Shell

namespace Lbfgsb.Dcsrch
open Lbfgsb

/-- `x ** 2` (libm `pow(x, 2.0)`, not always `x * x` in the last bit), IEEE `<=`, IEEE `==` -/
class DcOps (α : Type) where
  sq : α → α
  le : α → α → Bool
  eq : α → α → Bool

variable {α : Type} [Add α] [Sub α] [Mul α] [Div α] [Neg α] [LT α] [DecidableLT α]
  [OfNat α 0] [OfNat α 1] [FloatLike α] [DcOps α]

/-- small integer constants, exact in every arithmetic considered -/
def nat : Nat → α
  | 0 => 0
  | n + 1 => nat n + 1

def p5 : α := 1 / nat 2          -- 0.5
def p66 : α := nat 66 / nat 100  -- the double nearest to 0.66
def xtrapl : α := nat 11 / nat 10  -- the double nearest to 1.1
def xtrapu : α := nat 4

def sign (x : α) : α := if 0 < x then 1 else if x < 0 then -1 else 0

/-- Python `max(a, b, c)` -/
def max3 (a b c : α) : α := fmax (fmax a b) c

structure DC (α : Type) where
  ftol : α
  gtol : α
  xtol : α
  stpmin : α
  stpmax : α
  brackt : Bool
  stage : Nat
  finit : α
  ginit : α
  gtest : α
  width : α
  width1 : α
  stx : α
  fx : α
  gx : α
  sty : α
  fy : α
  gy : α
  stmin : α
  stmax : α

def DC.new (ftol gtol xtol stpmin stpmax : α) : DC α :=
  { ftol, gtol, xtol, stpmin, stpmax, brackt := false, stage := 1, finit := 0, ginit := 0, gtest := 0,
    width := 0, width1 := 0, stx := 0, fx := 0, gx := 0, sty := 0, fy := 0, gy := 0, stmin := 0, stmax := 0 }

/-- the new trial step of `dcstep` and the new bracketing flag -/
def dcstepNew (stx fx dx sty fy dy stp fp dp : α) (brackt : Bool) (stpmin stpmax : α) : α × Bool :=
  let sgnd := sign dp * sign dx
  let three : α := nat 3
  let two : α := nat 2
    if fx < fp then
      let theta := three * (fx - fp) / (stp - stx) + dx + dp
      let s := max3 (fabs theta) (fabs dx) (fabs dp)
      let gamma := s * FloatLike.sqrt (DcOps.sq (theta / s) - (dx / s) * (dp / s))
      let gamma := if stp < stx then gamma * (-1) else gamma
      let p := (gamma - dx) + theta
      let q := ((gamma - dx) + gamma) + dp
      let r := p / q
      let stpc := stx + r * (stp - stx)
      let stpq := stx + ((dx / ((fx - fp) / (stp - stx) + dx)) / two) * (stp - stx)
      (if DcOps.le (fabs (stpc - stx)) (fabs (stpq - stx)) then stpc else stpc + (stpq - stpc) / two, true)
    else if sgnd < 0 then
      let theta := three * (fx - fp) / (stp - stx) + dx + dp
      let s := max3 (fabs theta) (fabs dx) (fabs dp)
      let gamma := s * FloatLike.sqrt (DcOps.sq (theta / s) - (dx / s) * (dp / s))
      let gamma := if stx < stp then gamma * (-1) else gamma
      let p := (gamma - dp) + theta
      let q := ((gamma - dp) + gamma) + dx
      let r := p / q
      let stpc := stp + r * (stx - stp)
      let stpq := stp + (dp / (dp - dx)) * (stx - stp)
      (if fabs (stpq - stp) < fabs (stpc - stp) then stpc else stpq, true)
    else if fabs dp < fabs dx then
      let theta := three * (fx - fp) / (stp - stx) + dx + dp
      let s := max3 (fabs theta) (fabs dx) (fabs dp)
      let gamma := s * FloatLike.sqrt (fmax 0 (DcOps.sq (theta / s) - (dx / s) * (dp / s)))
      let gamma := if stx < stp then -gamma else gamma
      let p := (gamma - dp) + theta
      let q := (gamma + (dx - dp)) + gamma
      let r := p / q
      let stpc := if r < 0 ∧ !(DcOps.eq gamma 0) then stp + r * (stx - stp)
                  else if stx < stp then stpmax else stpmin
      let stpq := stp + (dp / (dp - dx)) * (stx - stp)
      if brackt then
        let stpf := if fabs (stpc - stp) < fabs (stpq - stp) then stpc else stpq
        (if stx < stp then fmin (stp + p66 * (sty - stp)) stpf else fmax (stp + p66 * (sty - stp)) stpf, brackt)
      else
        let stpf := if fabs (stpq - stp) < fabs (stpc - stp) then stpc else stpq
        (clip1 stpmin stpmax stpf, brackt)
    else
      if brackt then
        let theta := three * (fp - fy) / (sty - stp) + dy + dp
        let s := max3 (fabs theta) (fabs dy) (fabs dp)
        let gamma := s * FloatLike.sqrt (DcOps.sq (theta / s) - (dy / s) * (dp / s))
        let gamma := if sty < stp then -gamma else gamma
        let p := (gamma - dp) + theta
        let q := ((gamma - dp) + gamma) + dy
        let r := p / q
        (stp + r * (sty - stp), brackt)
      else if stx < stp then (stpmax, brackt) else (stpmin, brackt)

/-- `dcstep`: returns `(stx, fx, dx, sty, fy, dy, stp, brackt)` — the new trial step and the
updated interval which contains a minimiser -/
def dcstep (stx fx dx sty fy dy stp fp dp : α) (brackt : Bool) (stpmin stpmax : α) :
    α × α × α × α × α × α × α × Bool :=
  let r := dcstepNew stx fx dx sty fy dy stp fp dp brackt stpmin stpmax
  if fx < fp then (stx, fx, dx, stp, fp, dp, r.1, r.2)
  else if sign dp * sign dx < 0 then (stp, fp, dp, stx, fx, dx, r.1, r.2)
  else (stp, fp, dp, sty, fy, dy, r.1, r.2)

/-- the first call (`task = START`): argument checks and initialisation -/
def start (st : DC α) (stp f g : α) : DC α × α × Task :=
  let bad : Bool :=
    decide (stp < st.stpmin) || decide (st.stpmax < stp) || DcOps.le 0 g || decide (st.ftol < 0) ||
    decide (st.gtol < 0) || decide (st.xtol < 0) || decide (st.stpmin < 0) || decide (st.stpmax < st.stpmin)
  if bad then (st, stp, .error) else
  let gtest := st.ftol * g
  let width := st.stpmax - st.stpmin
  ({ st with brackt := false, stage := 1, finit := f, ginit := g, gtest := gtest, width := width,
             width1 := width / p5, stx := 0, fx := f, gx := g, sty := 0, fy := f, gy := g, stmin := 0,
             stmax := stp + xtrapu * stp }, stp, .fg)

/-- the call of `dcstep` (on the modified function during the first stage when a lower value
without sufficient decrease was obtained), with the function values reset afterwards: returns
`(stx, fx, gx, sty, fy, gy, stp, brackt)` -/
def stepCall (st : DC α) (stp f g ftest : α) : α × α × α × α × α × α × α × Bool :=
  if st.stage = 1 ∧ DcOps.le f st.fx ∧ ftest < f then
    let fm := f - stp * st.gtest
    let fxm := st.fx - st.stx * st.gtest
    let fym := st.fy - st.sty * st.gtest
    let gm := g - st.gtest
    let gxm := st.gx - st.gtest
    let gym := st.gy - st.gtest
    let t := dcstep st.stx fxm gxm st.sty fym gym stp fm gm st.brackt st.stmin st.stmax
    (t.1, t.2.1 + t.1 * st.gtest, t.2.2.1 + st.gtest, t.2.2.2.1, t.2.2.2.2.1 + t.2.2.2.1 * st.gtest,
     t.2.2.2.2.2.1 + st.gtest, t.2.2.2.2.2.2.1, t.2.2.2.2.2.2.2)
  else dcstep st.stx st.fx st.gx st.sty st.fy st.gy stp f g st.brackt st.stmin st.stmax

/-- bisection safeguard -/
def bisect (st : DC α) (stp : α) : α :=
  if st.brackt ∧ DcOps.le (p66 * st.width1) (fabs (st.sty - st.stx)) then st.stx + p5 * (st.sty - st.stx) else stp

def widen (st : DC α) : DC α :=
  if st.brackt then { st with width1 := st.width, width := fabs (st.sty - st.stx) } else st

/-- the minimum and maximum steps allowed for the next trial -/
def bounds (st : DC α) (stp : α) : DC α :=
  if st.brackt then { st with stmin := fmin st.stx st.sty, stmax := fmax st.stx st.sty }
  else { st with stmin := stp + xtrapl * (stp - st.stx), stmax := stp + xtrapu * (stp - st.stx) }

/-- projection on `[stpmin, stpmax]`, and fall-back on the best step when no progress is possible -/
def project (st : DC α) (stp : α) : α :=
  let s := clip1 st.stpmin st.stpmax stp
  if (st.brackt && (DcOps.le s st.stmin || DcOps.le st.stmax s)) ||
     (st.brackt && DcOps.le (st.stmax - st.stmin) (st.xtol * st.stmax)) then st.stx else s

/-- after `dcstep`: bisection safeguard, new bounds `stmin`/`stmax` for the step, projection on
`[stpmin, stpmax]`, fall-back on the best step -/
def finish (st : DC α) (stp : α) : DC α × α × Task :=
  let stp1 := bisect st stp
  let st2 := bounds (widen st) stp1
  (st2, project st2 stp1, .fg)

/-- neither converged nor stuck: compute the next trial step -/
def advance (st : DC α) (stp f g ftest : α) : DC α × α × Task :=
  let t := stepCall st stp f g ftest
  finish { st with stx := t.1, fx := t.2.1, gx := t.2.2.1, sty := t.2.2.2.1, fy := t.2.2.2.2.1,
                   gy := t.2.2.2.2.2.1, brackt := t.2.2.2.2.2.2.2 } t.2.2.2.2.2.2.1

/-- `DCSRCH._iterate(stp, f, g, task)`: new state, the step, the task class -/
def iterate (st : DC α) (stp f g : α) (task : Task) : DC α × α × Task :=
  if task = .start then start st stp f g else
  let ftest := st.finit + stp * st.gtest
  let stage := if st.stage = 1 ∧ DcOps.le f ftest ∧ DcOps.le 0 g then 2 else st.stage
  let st := { st with stage := stage }
  let w1 := st.brackt && (DcOps.le stp st.stmin || DcOps.le st.stmax stp)
  let w2 := st.brackt && DcOps.le (st.stmax - st.stmin) (st.xtol * st.stmax)
  let w3 := DcOps.eq stp st.stpmax && DcOps.le f ftest && DcOps.le g st.gtest
  let w4 := DcOps.eq stp st.stpmin && (decide (ftest < f) || DcOps.le st.gtest g)
  let conv := DcOps.le f ftest && DcOps.le (fabs g) (st.gtol * (-st.ginit))
  if conv then (st, stp, .conv)
  else if w1 || w2 || w3 || w4 then (st, stp, .warn)
  else advance st stp f g ftest

/-- feed the answers `(f, g)` of the caller to the stepper and collect what it returns -/
def trace (st : DC α) (stp : α) (task : Task) : List (α × α) → List (α × Task)
  | [] => []
  | (f, g) :: rest =>
    let r := iterate st stp f g task
    (r.2.1, r.2.2) :: (if r.2.2 = .fg then trace r.1 r.2.1 .fg rest else [])

end Lbfgsb.Dcsrch
